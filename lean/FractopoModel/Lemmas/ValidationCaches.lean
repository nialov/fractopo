import FractopoModel.Generated.ValidationCaches
import FractopoModel.Generated.ValidatorTable
/-!
# The node caches of a `Validation` object over the `_validate` calls of one pass

`C02` and `C13` each define the run of `k` calls (`accesses`); the facts below are about any function with that recursion, so both use them.
-/
namespace ValCachesL
open Gen
variable {T GN NS : Type} {gen : T → GN} {vn fj : GN → NS} {flag : Bool} {traces : T}
  {acc : Nat → ValCaches GN NS → List (Option NS × Option NS) × ValCaches GN NS}

/-- once a call leaves the caches as they are, every later call of the pass gets the same answer -/
theorem settled (h0 : ∀ c, acc 0 c = ([], c))
    (hs : ∀ k c, acc (k + 1) c = ((val_access gen vn fj flag traces c).1 :: (acc k (val_access gen vn fj flag traces c).2).1, (acc k (val_access gen vn fj flag traces c).2).2))
    {c : ValCaches GN NS} {r : Option NS × Option NS} (h : val_access gen vn fj flag traces c = (r, c)) (k : Nat) : acc k c = (List.replicate k r, c) := by
  induction k with
  | zero => exact h0 c
  | succ k ih => rw [hs, h, ih]; rfl

/-- **A pass that starts with empty caches sees the node sets of ITS OWN traces in every call** (none when no validator of the pass needs nodes): the first
call fills the caches from `traces`, or leaves them empty when the flag is off, and either state is settled. -/
theorem fresh_pass (h0 : ∀ c, acc 0 c = ([], c))
    (hs : ∀ k c, acc (k + 1) c = ((val_access gen vn fj flag traces c).1 :: (acc k (val_access gen vn fj flag traces c).2).1, (acc k (val_access gen vn fj flag traces c).2).2))
    (k : Nat) : (acc k {}).1 = List.replicate k (if flag then (some (vn (gen traces)), some (fj (gen traces))) else (none, none)) := by
  cases flag with
  | false => rw [settled h0 hs (c := {}) rfl]; rfl
  | true =>
    cases k with
    | zero => rw [h0]; rfl
    | succ k => rw [hs, settled h0 hs (c := (val_access gen vn fj true traces {}).2) rfl]; rfl

/-- with the default validators the first pass (MAJOR validators: none needs nodes) computes nothing and the second (ALL validators) needs the node sets -/
theorem default_flags : val_flag requires_nodes (major_validators.map (·.1)) = false ∧ val_flag requires_nodes (all_validators.map (·.1)) = true := by decide

end ValCachesL
