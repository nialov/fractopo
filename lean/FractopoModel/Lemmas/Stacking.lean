import FractopoModel.Generated.Stacking
import FractopoModel.Lemmas.Loops
/-! The regenerated `segment_within_buffer` in closed form. -/
namespace StackingL
variable {L M B : Type}

/-- the test one detection-length segment has to pass -/
def segOK (seg_len : Rat × Rat → Rat × Rat → Rat) (isclose : Rat → Rat → Bool) (seg_within : Rat × Rat → Rat × Rat → B → Bool)
    (bounds : Rat × Rat × Rat × Rat) (buf : B) (det : Rat) (sg : (Rat × Rat) × (Rat × Rat)) : Bool :=
  (Gen.within_bounds sg.1.1 sg.1.2 bounds.1 bounds.2.1 bounds.2.2.1 bounds.2.2.2 && Gen.within_bounds sg.2.1 sg.2.2 bounds.1 bounds.2.1 bounds.2.2.1 bounds.2.2.2) &&
    ((decide (seg_len sg.1 sg.2 > det) || isclose (seg_len sg.1 sg.2) det) && seg_within sg.1 sg.2 buf)

/-- everything after the overlap shortcut -/
def tail (buffer_ : L → Rat → B) (bounds_of : B → Rat × Rat × Rat × Rat) (intersects : B → M → Bool) (crop_ : B → M → List L) (crop_is_lines : B → M → Bool)
    (interp : L → Rat → Rat × Rat) (slen : L → Rat) (seg_len : Rat × Rat → Rat × Rat → Rat) (isclose : Rat → Rat → Bool) (seg_within : Rat × Rat → Rat × Rat → B → Bool)
    (ls : L) (mls : M) (t m o b : Rat) : Bool :=
  let buf := buffer_ ls (t * m * b)
  if !intersects buf mls then false
  else
    let cr := crop_ buf mls
    if cr.isEmpty || (decide (cr.length = 1) && decide ((cr.map slen).sum < t * o)) then false
    else if !crop_is_lines buf mls then false
    else (cr.flatMap fun l => Gen.segmentize_linestring interp slen l (t * o)).any (segOK seg_len isclose seg_within (bounds_of buf) buf (t * o))

section Loops
variable (mls_empty : M → Bool) (overlaps : L → M → Bool) (inter_is_points : L → M → Bool) (buffer_ : L → Rat → B) (bounds_of : B → Rat × Rat × Rat × Rat)
  (intersects : B → M → Bool) (crop_ : B → M → List L) (crop_is_lines : B → M → Bool) (interp : L → Rat → Rat × Rat) (slen : L → Rat)
  (seg_len : Rat × Rat → Rat × Rat → Rat) (isclose : Rat → Rat → Bool) (seg_within : Rat × Rat → Rat × Rat → B → Bool)
  (ls : L) (mls : M) (t m o b : Rat)

/- The generated function has its last part twice (with and without an overlap in points only), so each of its two loops exists twice. -/

theorem loop1_eq (all l : List L) (acc : List ((Rat × Rat) × (Rat × Rat))) :
    Gen.segment_within_buffer_loop1 mls_empty overlaps inter_is_points buffer_ bounds_of intersects crop_ crop_is_lines interp slen seg_len isclose seg_within ls mls t m o b all l acc =
      acc ++ l.flatMap fun x => Gen.segmentize_linestring interp slen x (t * o) := by
  apply Loop.collect <;> intros <;> rfl

theorem loop3_eq (all l : List L) (acc : List ((Rat × Rat) × (Rat × Rat))) :
    Gen.segment_within_buffer_loop3 mls_empty overlaps inter_is_points buffer_ bounds_of intersects crop_ crop_is_lines interp slen seg_len isclose seg_within ls mls t m o b all l acc =
      acc ++ l.flatMap fun x => Gen.segmentize_linestring interp slen x (t * o) := by
  apply Loop.collect <;> intros <;> rfl

theorem loop2_eq (minx miny maxx maxy : Rat) (buf : B) (all l : List ((Rat × Rat) × (Rat × Rat))) :
    Gen.segment_within_buffer_loop2 mls_empty overlaps inter_is_points buffer_ bounds_of intersects crop_ crop_is_lines interp slen seg_len isclose seg_within ls mls t m o b minx miny maxx maxy buf all l =
      if l.any (segOK seg_len isclose seg_within (minx, miny, maxx, maxy) buf (t * o)) then .ret true else .done () := by
  apply Loop.scan
  · rfl
  · rintro ⟨s, e⟩ l; exact Loop.ite_ite_and ..

theorem loop4_eq (minx miny maxx maxy : Rat) (buf : B) (all l : List ((Rat × Rat) × (Rat × Rat))) :
    Gen.segment_within_buffer_loop4 mls_empty overlaps inter_is_points buffer_ bounds_of intersects crop_ crop_is_lines interp slen seg_len isclose seg_within ls mls t m o b minx miny maxx maxy buf all l =
      if l.any (segOK seg_len isclose seg_within (minx, miny, maxx, maxy) buf (t * o)) then .ret true else .done () := by
  apply Loop.scan
  · rfl
  · rintro ⟨s, e⟩ l; exact Loop.ite_ite_and ..

end Loops

end StackingL
