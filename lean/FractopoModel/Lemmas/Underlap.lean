import FractopoModel.Spec.Underlap
import FractopoModel.Generated.UnderlapValidator
import FractopoModel.Lemmas.Loops
/-! The regenerated `UnderlappingSnapValidator.validation_method` equals the hand-written decision `Spec.underlapVerdict`. -/
namespace Underlap
variable {L P : Type}

/-- what is returned for the deciding pair -/
def hitResult (isUl : L → L → P → Option Bool) (overlaps : L → L → Bool) (geom c : L) (ep : P) : Except String (Bool × String) :=
  match isUl geom c ep with
  | none => if overlaps geom c then .ok (false, "STACKED TRACES") else .error "ValueError"
  | some true => .ok (false, "UNDERLAPPING SNAP")
  | some false => .ok (false, "OVERLAPPING SNAP")

section Oracles
variable (endpoints_of : L → List P) (dist : L → P → Rat) (isUl : L → L → P → Option Bool) (overlaps : L → L → Bool)
  (geom : L) (cands : List L) (t m : Rat)

theorem loop2_eq (ep : P) (l : List L) (st : String) :
    Gen.underlap_validation_loop2 endpoints_of dist isUl overlaps geom cands t m ep l st =
      (l.find? fun c => Spec.inWindow t m (dist c ep)).elim (.done st) fun c => .ret (hitResult isUl overlaps geom c ep) := by
  rw [List.find?_eq_findSome?_guard]
  apply Loop.first (f := fun l => Gen.underlap_validation_loop2 endpoints_of dist isUl overlaps geom cands t m ep l st)
  · rfl
  · intro c l
    rw [Gen.underlap_validation_loop2, Option.guard]
    unfold Spec.inWindow
    by_cases hw : (decide (t < dist c ep) && decide (dist c ep < t * m)) = true
    · rw [if_pos hw, if_pos hw]
      show _ = Loop.ret (hitResult isUl overlaps geom c ep)
      unfold hitResult
      rcases isUl geom c ep with _ | _ | _
      · cases overlaps geom c <;> rfl
      · rfl
      · rfl
    · rw [if_neg hw, if_neg hw]; rfl

theorem loop1_eq (alleps eps : List P) (st : String) :
    Gen.underlap_validation_loop1 endpoints_of dist isUl overlaps geom cands t m alleps eps st =
      (Spec.underlapHit dist t m cands eps).elim (.done st) fun hit => .ret (hitResult isUl overlaps geom hit.2 hit.1) := by
  apply Loop.first (f := fun l => Gen.underlap_validation_loop1 endpoints_of dist isUl overlaps geom cands t m alleps l st)
  · rfl
  · intro ep l
    rw [Gen.underlap_validation_loop1, loop2_eq]
    unfold Spec.wellSnapped
    split
    · rfl
    · cases List.find? _ _ <;> rfl

/-- the specified verdict: a pass leaves the class attribute as it was, a hit decides without reading it -/
theorem underlapVerdict_eq (eps : List P) (glob : String) :
    Spec.underlapVerdict dist isUl overlaps geom cands eps t m glob =
      (Spec.underlapHit dist t m cands eps).elim (.ok (true, glob)) fun hit => hitResult isUl overlaps geom hit.2 hit.1 := by
  unfold Spec.underlapVerdict
  cases Spec.underlapHit dist t m cands eps <;> rfl

variable {isUl overlaps geom} in
theorem hitResult_ok {c : L} {ep : P} {ok : Bool} {out : String} (h : hitResult isUl overlaps geom c ep = .ok (ok, out)) :
    ok = false ∧ out ∈ ["UNDERLAPPING SNAP", "OVERLAPPING SNAP", "STACKED TRACES"] := by
  unfold hitResult at h
  split at h
  · split at h <;> cases h
    exact ⟨rfl, .tail _ (.tail _ (.head _))⟩
  · cases h; exact ⟨rfl, .head _⟩
  · cases h; exact ⟨rfl, .tail _ (.head _)⟩

end Oracles

/-- **Refinement**: the regenerated validation method computes the specified verdict and class attribute -/
theorem generated_eq_spec (endpoints_of : L → List P) (dist : L → P → Rat) (isUl : L → L → P → Option Bool) (overlaps : L → L → Bool)
    (geom : L) (cands : List L) (t m : Rat) (glob : String) :
    Gen.underlap_validation endpoints_of dist isUl overlaps geom cands t m glob
      = Spec.underlapVerdict dist isUl overlaps geom cands (endpoints_of geom) t m glob := by
  unfold Gen.underlap_validation Spec.underlapVerdict
  cases cands with
  | nil =>
    have : Spec.underlapHit dist t m ([] : List L) (endpoints_of geom) = none := List.findSome?_eq_none_iff.mpr fun _ _ => rfl
    rw [this]; rfl
  | cons c cs =>
    simp only [loop1_eq]
    cases Spec.underlapHit dist t m (c :: cs) (endpoints_of geom) <;> rfl

end Underlap
