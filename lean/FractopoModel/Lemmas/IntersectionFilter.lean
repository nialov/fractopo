import FractopoModel.Generated.IntersectionFilter
import FractopoModel.Lemmas.Prelude
/-!
# The regenerated `determine_valid_intersection_points_no_vnode` keeps exactly the intersection points that are not on a
shared end

Specification: an intersection point `p` of the trace with its candidates is dropped iff some END `ge` of the trace is close to
an END `ce` of some candidate and `p` is close to `ge` (the contact is a V-node, which is judged from the end points).
-/
namespace IntersectionFilter
variable {L P : Type}

/-- the trace ends that coincide with an end of some candidate (with repetitions, in loop order) -/
def activeEnds (ends_of : L → List P) (close : P → P → Bool) (cands : List L) (geom : L) : List P :=
  cands.flatMap fun c => (ends_of c).flatMap fun ce => (ends_of geom).filter fun ge => close ce ge

/-- mask `M` is mask `k` with the flags at the positions satisfying `T` switched off -/
def Off (k M : List Bool) (T : Nat → Bool) : Prop :=
  ∀ i : Nat, M[i]? = (k[i]?).map fun b => b && !T i

/-- a loop every round of which only switches flags off switches off the flags that some round does. The round is given as a relation (`k'` is what the
body leaves of `k`), so a body that tests before it acts needs no step function written out: each of the four nested loops is an instance. -/
theorem Off.loop {α : Type} {f : List α → List Bool → List Bool} {T : α → Nat → Bool} (nil : ∀ k, f [] k = k)
    (cons : ∀ a l k, ∃ k', f (a :: l) k = f l k' ∧ Off k k' (T a)) (l : List α) (k : List Bool) : Off k (f l k) fun i => l.any (T · i) := by
  induction l generalizing k with
  | nil => intro i; simp [nil]
  | cons a l ih =>
    obtain ⟨k', e, h⟩ := cons a l k
    intro i; rw [e, ih k' i, h i]; cases k[i]? <;> simp [Bool.and_assoc]

/-- a round that does nothing -/
theorem Off.same {k : List Bool} {T : Nat → Bool} (h : ∀ i, T i = false) : Off k k T := fun i => by
  rw [h]; cases k[i]? <;> simp

theorem any_zipIdx (inter : List P) (i : Nat) (q : P → Bool) : (inter.zipIdx.any fun x => x.2 == i && q x.1) = (inter[i]?).any q := by
  rw [Bool.eq_iff_iff, List.any_eq_true, Option.any_eq_true]
  simp only [List.mem_zipIdx_iff_getElem?, Bool.and_eq_true, beq_iff_eq]
  constructor
  · rintro ⟨⟨p, j⟩, h, rfl, hq⟩; exact ⟨p, h, hq⟩
  · rintro ⟨p, h, hq⟩; exact ⟨(p, i), h, rfl, hq⟩

section
variable {inter0 : List P} {ends_of : L → List P} {close : P → P → Bool} {all : List L} {geom : L} {inter : List P}

theorem loop4_off (ge : P) (k : List Bool) :
    Off k (Gen.intersection_points_no_vnode_loop4 inter0 ends_of close all geom ge inter inter.zipIdx k) fun i => (inter[i]?).any (close ge) := by
  have h := Off.loop (f := Gen.intersection_points_no_vnode_loop4 inter0 ends_of close all geom ge inter) (T := fun x i => x.2 == i && close ge x.1)
    (fun _ => rfl) (fun x l k => ?_) inter.zipIdx k
  · intro i; rw [h i]; simp only [any_zipIdx]
  · obtain ⟨p, idx⟩ := x
    refine ⟨if !k.getD idx true then k else if close ge p then k.set idx false else k, by rw [Gen.intersection_points_no_vnode_loop4]; exact (apply_ite _ _ _ _).symm, fun j => ?_⟩
    -- position `j` read through the two tests; the assignment touches it only when `idx = j`, and what is left are Boolean cases
    simp only [apply_ite (·[j]?), List.getElem?_set', List.getD_eq_getElem?_getD]
    by_cases hj : idx = j
    · subst hj
      simp only [if_true, beq_self_eq_true, Bool.true_and]
      cases k[idx]? with
      | none => cases close ge p <;> rfl
      | some b => cases b <;> cases close ge p <;> rfl
    · simp only [if_neg hj, beq_eq_false_iff_ne.mpr hj, Bool.false_and, Bool.not_false, Bool.and_true, ite_self]
      cases k[j]? <;> rfl

theorem loop3_off (ce : P) (allges ges : List P) (k : List Bool) :
    Off k (Gen.intersection_points_no_vnode_loop3 inter0 ends_of close all geom ce inter allges ges k)
      fun i => ges.any fun ge => close ce ge && (inter[i]?).any (close ge) := by
  refine Off.loop (fun _ => rfl) (fun ge l k => ?_) ges k
  rw [Gen.intersection_points_no_vnode_loop3]
  cases close ce ge
  · exact ⟨k, rfl, Off.same fun _ => rfl⟩
  · exact ⟨_, rfl, by simpa using loop4_off ge k⟩

theorem loop2_off (ges allces ces : List P) (k : List Bool) :
    Off k (Gen.intersection_points_no_vnode_loop2 inter0 ends_of close all geom ges inter allces ces k)
      fun i => ces.any fun ce => ges.any fun ge => close ce ge && (inter[i]?).any (close ge) :=
  Off.loop (fun _ => rfl) (fun ce _ k => ⟨_, rfl, loop3_off ce ges ges k⟩) ces k

theorem loop1_off (ges : List P) (cands : List L) (k : List Bool) :
    Off k (Gen.intersection_points_no_vnode_loop1 inter0 ends_of close all geom ges inter cands k)
      fun i => cands.any fun c => (ends_of c).any fun ce => ges.any fun ge => close ce ge && (inter[i]?).any (close ge) :=
  Off.loop (fun _ => rfl) (fun c _ k => ⟨_, rfl, loop2_off ges (ends_of c) (ends_of c) k⟩) cands k

end

/-- **Refinement**: the regenerated function keeps exactly the intersection points that are not close to an active end -/
theorem generated_eq_spec (inter : List P) (ends_of : L → List P) (close : P → P → Bool) (cands : List L) (geom : L) :
    Gen.intersection_points_no_vnode inter ends_of close cands geom =
      inter.filter fun p => !((activeEnds ends_of close cands geom).any fun ge => close ge p) := by
  unfold Gen.intersection_points_no_vnode
  dsimp only
  split
  · next h => simp [List.eq_nil_of_length_eq_zero (of_decide_eq_true h)]
  · rw [← pyCompress_self]
    congr 1
    apply List.ext_getElem?
    intro i
    rw [loop1_off (ends_of geom) cands _ i, List.getElem?_map, List.getElem?_replicate]
    cases hi : inter[i]? with
    | none => simp [List.getElem?_eq_none_iff.mp hi]
    | some p =>
      obtain ⟨hlt, he⟩ := List.getElem?_eq_some_iff.mp hi
      -- the three nested `any`s over candidates, their ends and the trace's ends are one `any` over `activeEnds`
      simp [hlt, he, activeEnds, List.any_flatMap, List.any_filter]

end IntersectionFilter
