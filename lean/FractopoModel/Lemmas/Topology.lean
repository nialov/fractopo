import FractopoModel.Model.Topology
/-! Lemmas of the node and branch tables of `Model/Topology.lean`: the ends of the branches, first occurrences (`collect`), multiplicities, and what depends on the
branches only through the multiset of their ends (so not on their order or direction). -/
namespace Topo
variable {P : Type}

theorem mem_ends (bs : List (Branch P)) (x : P) : x ∈ ends bs ↔ ∃ br ∈ bs, x = br.a ∨ x = br.b := by
  simp only [ends, List.mem_flatMap, List.mem_cons, List.not_mem_nil, or_false]

theorem ends_length (bs : List (Branch P)) : (ends bs).length = 2 * bs.length := by
  simp [ends, List.length_flatMap, List.map_const', Nat.mul_comm]

/-! ### invariance under permuting the branches and reversing any of them -/

def Branch.rev (b : Branch P) : Branch P := ⟨b.b, b.a⟩

/-- `bs'` is `bs` up to order and direction of the branches -/
def SameUpToOrderDir (bs bs' : List (Branch P)) : Prop :=
  ∃ flips : List Bool, flips.length = bs.length ∧
    bs'.Perm ((bs.zip flips).map fun (x : Branch P × Bool) => if x.2 then x.1.rev else x.1)

theorem ends_flip (bs : List (Branch P)) (flips : List Bool) (hl : flips.length = bs.length) :
    (ends ((bs.zip flips).map fun (x : Branch P × Bool) => if x.2 then x.1.rev else x.1)).Perm (ends bs) := by
  induction bs generalizing flips with
  | nil => exact .rfl
  | cons b bs ih =>
    cases flips with
    | nil => cases hl
    | cons f fs =>
      -- a flipped branch contributes its two ends in the other order
      have head : [(if f then b.rev else b).a, (if f then b.rev else b).b].Perm [b.a, b.b] := by
        cases f
        · exact .rfl
        · exact .swap _ _ _
      exact head.append (ih fs (Nat.succ.inj hl))

theorem ends_same {bs bs' : List (Branch P)} (h : SameUpToOrderDir bs bs') : (ends bs').Perm (ends bs) := by
  obtain ⟨flips, hl, hp⟩ := h
  exact (List.Perm.flatMap_right _ hp).trans (ends_flip bs flips hl)

theorem branchLabel_nodes_perm {f : Nat → Nat → Nat → String} {close : P → P → Bool} {ns ns' : List P}
    (h : ns.Perm ns') {cls : P → String} (br : Branch P) :
    branchLabel f close ns cls br = branchLabel f close ns' cls br := by
  unfold branchLabel nodesNear
  have hf := h.filter (fun n => close n br.a || close n br.b)
  simp only [hf.countP_eq]

theorem branchLabel_rev {f : Nat → Nat → Nat → String} {close : P → P → Bool} {ns : List P} {cls : P → String} (br : Branch P) :
    branchLabel f close ns cls br.rev = branchLabel f close ns cls br := by
  unfold branchLabel nodesNear Branch.rev
  simp only [Bool.or_comm]

/-! ### first occurrences and multiplicities -/

variable [DecidableEq P]

theorem mem_firstSeen (l : List P) (x : P) : x ∈ firstSeen l ↔ x ∈ l := by
  induction l with
  | nil => simp [firstSeen]
  | cons p ps ih =>
    simp only [firstSeen, List.mem_cons, List.mem_filter, ih]
    by_cases h : x = p <;> simp [h]

theorem firstSeen_nodup (l : List P) : (firstSeen l).Nodup := by
  induction l with
  | nil => simp [firstSeen]
  | cons p ps ih =>
    simp only [firstSeen, List.nodup_cons]
    exact ⟨by simp [List.mem_filter], ih.filter _⟩

theorem collect_nodup (bs : List (Branch P)) : (collect bs).Nodup := firstSeen_nodup _

theorem mem_collect (bs : List (Branch P)) (x : P) : x ∈ collect bs ↔ x ∈ ends bs := mem_firstSeen _ x

theorem mult_pos_of_mem (bs : List (Branch P)) (p : P) (h : p ∈ collect bs) : 0 < mult bs p := by
  rw [mem_collect] at h
  exact List.count_pos_iff.mpr h

/-- counting the elements of `l` at each member of a duplicate-free list that contains them all counts each once -/
theorem sum_count_of_nodup (l ns : List P) (hn : ns.Nodup) (hall : ∀ x ∈ l, x ∈ ns) :
    (ns.map (fun n => l.count n)).sum = l.length := by
  induction ns generalizing l with
  | nil => rw [List.eq_nil_iff_forall_not_mem.mpr fun x hx => List.not_mem_nil (hall x hx)]; rfl
  | cons a as ih =>
    obtain ⟨ha, has⟩ := List.nodup_cons.mp hn
    -- the copies of `a` are counted at `a`, the other elements of `l` at the other members
    rw [List.map_cons, List.sum_cons, ← (List.filter_append_perm (· == a) l).length_eq, List.length_append,
      ← List.countP_eq_length_filter, ← List.count_eq_countP, ← ih (l.filter fun x => !(x == a)) has]
    · congr 2
      apply List.map_congr_left
      intro n hn
      rw [List.count_filter]
      exact bne_iff_ne.mpr fun h => ha (h ▸ hn)
    · intro x hx
      rw [List.mem_filter] at hx
      exact (List.mem_cons.mp (hall x hx.1)).resolve_left (bne_iff_ne.mp hx.2)

/-! ### the node table reads the branches through the multiset of their ends only -/

theorem mult_of_ends_perm {bs bs' : List (Branch P)} (h : (ends bs').Perm (ends bs)) (p : P) : mult bs' p = mult bs p :=
  h.count_eq p

theorem collect_of_ends_perm {bs bs' : List (Branch P)} (h : (ends bs').Perm (ends bs)) : (collect bs').Perm (collect bs) := by
  apply (List.perm_ext_iff_of_nodup (collect_nodup _) (collect_nodup _)).mpr
  intro a
  rw [mem_collect, mem_collect]
  exact h.mem_iff

theorem nodeClass_of_ends_perm {bs bs' : List (Branch P)} (h : (ends bs').Perm (ends bs)) (nearB : P → Bool)
    (d : Nat → String) (p : P) : nodeClass nearB d bs' p = nodeClass nearB d bs p := by
  unfold nodeClass; rw [mult_of_ends_perm h]

end Topo
