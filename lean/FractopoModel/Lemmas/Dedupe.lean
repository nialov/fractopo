import FractopoModel.Generated.Dedupe
import FractopoModel.Lemmas.Prelude
import FractopoModel.Lemmas.Lists
/-! The regenerated `filter_non_unique_traces` keeps the first trace of every key, in order. -/
namespace DedupeL
variable {G K : Type} [BEq K]

/-- first occurrence per key, relative to the keys already seen -/
def kept (key : G → K) : List K → List G → List G
  | _, [] => []
  | seen, g :: gs => if List.elem (key g) seen then kept key seen gs else g :: kept key (seen ++ [key g]) gs

theorem kept_sublist (key : G → K) (seen : List K) (l : List G) : (kept key seen l).Sublist l := by
  fun_induction kept key seen l with
  | case1 => exact .slnil
  | case2 _ g _ _ ih => exact ih.cons g
  | case3 _ g _ _ ih => exact ih.cons_cons g

theorem kept_map {H : Type} (f : H → G) (key : G → K) (seen : List K) (l : List H) :
    kept key seen (l.map f) = (kept (fun h => key (f h)) seen l).map f := by
  fun_induction kept (fun h => key (f h)) seen l with
  | case1 => rfl
  | case2 _ _ _ hs ih => rw [List.map_cons, kept, if_pos hs, ih]
  | case3 _ _ _ hs ih => rw [List.map_cons, kept, if_neg hs, ih, List.map_cons]

/-- the loop runs over (trace, position) pairs and collects positions: those of the pairs `kept` by the key of the trace -/
theorem loop1_eq (key : G → K) (traces : List G) (ps : List (G × Nat)) (seen : List K) (idxs : List Nat) :
    (Gen.filter_non_unique_traces_loop1 key traces ps seen idxs).2 = idxs ++ (kept (fun p => key p.1) seen ps).map (·.2) := by
  induction ps generalizing seen idxs with
  | nil => simp [Gen.filter_non_unique_traces_loop1, kept]
  | cons p ps ih =>
    simp only [Gen.filter_non_unique_traces_loop1, kept]
    split
    · exact ih seen idxs
    · rename_i hs
      rw [pySetAdd_fresh hs, ih, List.map_cons, List.append_assoc, List.singleton_append]

/-- **Refinement**: the regenerated duplicate filter keeps exactly the first trace of every key, in order. Reading the kept
positions back gives the kept traces because every kept pair is one of `traces.zipIdx`. -/
theorem generated_dedupe (key : G → K) (traces : List G) : Gen.filter_non_unique_traces key traces = kept key [] traces := by
  unfold Gen.filter_non_unique_traces
  have hsub := (kept_sublist (fun p : G × Nat => key p.1) [] traces.zipIdx).subset
  simp only [loop1_eq, List.nil_append, List.filterMap_map, Function.comp_def]
  rw [List.filterMap_congr (g := some ∘ Prod.fst) fun p hp => List.mem_zipIdx_iff_getElem?.mp (hsub hp), List.filterMap_eq_map,
    ← kept_map, List.zipIdx_map_fst]

theorem kept_keys_nodup [LawfulBEq K] (key : G → K) (seen : List K) (l : List G) (hseen : seen.Pairwise (· ≠ ·)) :
    (seen ++ (kept key seen l).map key).Pairwise (· ≠ ·) := by
  fun_induction kept key seen l with
  | case1 => simpa using hseen
  | case2 _ _ _ _ ih => exact ih hseen
  | case3 seen g _ hs ih =>
    rw [List.map_cons, List.append_cons]
    exact ih (List.pairwise_append.mpr ⟨hseen, List.pairwise_singleton _ _, fun a ha b hb => by
      rintro rfl; exact hs (by simpa using List.mem_singleton.mp hb ▸ ha)⟩)

theorem kept_covers [LawfulBEq K] (key : G → K) (seen : List K) (l : List G) : ∀ g ∈ l, key g ∈ seen ++ (kept key seen l).map key := by
  fun_induction kept key seen l with
  | case1 => simp
  | case2 seen a _ hs ih =>
    intro g hg
    rcases List.mem_cons.mp hg with rfl | hg'
    · exact List.mem_append_left _ (List.mem_of_elem_eq_true hs)
    · exact ih g hg'
  | case3 seen a _ _ ih =>
    intro g hg
    rw [List.map_cons, List.append_cons]
    rcases List.mem_cons.mp hg with rfl | hg'
    · exact List.mem_append_left _ (List.mem_append_right _ (List.mem_singleton_self _))
    · exact ih g hg'

end DedupeL
