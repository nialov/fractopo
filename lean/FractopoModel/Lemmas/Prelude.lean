import FractopoModel.Basic.PyPrelude
/-!
# What the prelude functions compute

What the refinement proofs share about the `py…` / `alist…` functions of `Basic/PyPrelude.lean`, grouped by function.
-/
variable {α β κ ν : Type}

/-! ### `itertools.compress` -/

/-- data and selectors computed from one list: a filter -/
theorem pyCompress_map (f : α → β) (p : α → Bool) (l : List α) : pyCompress (l.map f) (l.map p) = (l.filter p).map f := by
  induction l with
  | nil => rfl
  | cons a l ih => simp only [pyCompress, List.map_cons, List.zip_cons_cons, List.filter_cons] at ih ⊢; cases p a <;> simp [ih]

theorem pyCompress_self (p : α → Bool) (l : List α) : pyCompress l (l.map p) = l.filter p := by
  simpa using pyCompress_map id p l

theorem pyCompress_append {l₁ l₂ : List α} {m₁ m₂ : List Bool} (h : l₁.length = m₁.length) :
    pyCompress (l₁ ++ l₂) (m₁ ++ m₂) = pyCompress l₁ m₁ ++ pyCompress l₂ m₂ := by
  simp [pyCompress, List.zip_append h]

theorem pyCompress_replicate {l : List α} {n : Nat} (h : l.length = n) (b : Bool) : pyCompress l (List.replicate n b) = if b then l else [] := by
  rw [← h, ← List.map_const', pyCompress_self]; cases b <;> simp

/-- selectors that drop one block of the data -/
theorem pyCompress_block {l : List α} {s c r : Nat} (h : l.length = s + c + r) :
    pyCompress l (List.replicate s true ++ (List.replicate c false ++ List.replicate r true)) = l.take s ++ l.drop (s + c) := by
  have h₁ : (l.take s).length = s := by rw [List.length_take]; omega
  have h₂ : ((l.drop s).take c).length = c := by rw [List.length_take, List.length_drop]; omega
  have h₃ : (l.drop (s + c)).length = r := by rw [List.length_drop]; omega
  conv => lhs; rw [← List.take_append_drop s l, ← List.take_append_drop c (l.drop s), List.drop_drop]
  rw [pyCompress_append (by rw [h₁, List.length_replicate]), pyCompress_append (by rw [h₂, List.length_replicate]), pyCompress_replicate h₁,
    pyCompress_replicate h₂, pyCompress_replicate h₃]
  rfl

/-! ### a pandas series with the default index -/

theorem pySeries_length (l : List α) : (pySeries l).length = l.length := by simp [pySeries]

theorem pySeries_getElem? (l : List α) (i : Nat) : (pySeries l)[i]? = (l[i]?).map fun x => (i, x) := by
  simp [pySeries, List.getElem?_zipIdx]
  cases l[i]? <;> simp

theorem pySeries_fst (l : List α) : (pySeries l).map Prod.fst = List.range' 0 l.length := by
  rw [pySeries, List.map_map]; exact List.zipIdx_map_snd 0 l

/-- looking positions up in a series, keeping the entries whose point passes `p`, and reading off the labels is filtering the positions -/
theorem pyIloc_pySeries_filter {f : List α} (p : α → Bool) (l : List Nat) :
    ((pyIloc (pySeries f) l).filter fun x => p x.2).map Prod.fst = l.filter fun v => (f[v]?).any p := by
  rw [pyIloc, List.filter_filterMap, List.map_filterMap, ← List.filterMap_eq_filter]
  congr 1; funext v
  rw [pySeries_getElem?, Option.guard]
  cases f[v]? with
  | none => rfl
  | some x => cases h : p x <;> simp [Option.filter, h]

/-! ### label-aligned column assignment -/

/-- a series computed row by row from the frame itself carries the frame's own index, so the assignment is positional -- whatever the labels, duplicates included -/
theorem pyAssignAligned_map {L D G : Type} [BEq L] [ReflBEq L] (f : L × D × G → G) (nan : G) (frame : List (L × D × G)) :
    pyAssignAligned frame (frame.map fun r => (r.1, f r)) nan = .ok (frame.map fun r => (r.1, r.2.1, f r)) := by
  simp [pyAssignAligned, Function.comp_def, List.zipWith_map_right, List.zipWith_self]

/-! ### dicts as association lists in insertion order -/

theorem alistHas_eq_isSome [BEq κ] (d : AList κ ν) (k : κ) : alistHas d k = (alistGet? d k).isSome := by
  rw [alistHas, alistGet?, Option.isSome_map, List.isSome_find?]

theorem alistSet_fresh [BEq κ] {d : AList κ ν} {k : κ} (h : alistHas d k = false) (v : ν) : alistSet d k v = d ++ [(k, v)] := by
  rw [alistSet, h]; rfl

/-- a dict comprehension over distinct keys that the dict does not hold yet: the keys are appended in order -/
theorem alistSet_foldl_fresh [BEq κ] [LawfulBEq κ] (f : κ → ν) (l : List κ) (d : AList κ ν) (hnd : l.Nodup) (hfresh : ∀ k ∈ l, alistHas d k = false) :
    l.foldl (fun d k => alistSet d k (f k)) d = d ++ l.map fun k => (k, f k) := by
  induction l generalizing d with
  | nil => simp
  | cons k l ih =>
    have ⟨hk, hl⟩ := List.nodup_cons.mp hnd
    rw [List.foldl_cons, alistSet_fresh (hfresh k List.mem_cons_self), ih _ hl, List.map_cons, List.append_assoc, List.singleton_append]
    intro k' hk'
    show List.any (d ++ [(k, f k)]) _ = false
    rw [List.any_append, List.any_cons, List.any_nil, Bool.or_false]
    exact Bool.or_eq_false_iff.mpr ⟨hfresh k' (List.mem_cons_of_mem _ hk'), beq_false_of_ne fun (h : k = k') => hk (h ▸ hk')⟩

/-! ### sets kept as duplicate-free lists -/

theorem pySetAdd_fresh [BEq α] {s : List α} {x : α} (h : ¬ s.elem x = true) : pySetAdd s x = s ++ [x] :=
  if_neg h

theorem mem_pySetAdd [BEq α] [LawfulBEq α] {s : List α} {x a : α} : a ∈ pySetAdd s x ↔ a ∈ s ∨ a = x := by
  unfold pySetAdd
  split
  · next h => exact ⟨Or.inl, fun h' => h'.elim id fun e => e ▸ by simpa using h⟩
  · simp

/-! ### `list.pop(k)` then `list.insert(k, v)` -/

theorem pyInsertIdx_eraseIdx (l : List α) (k : Nat) (v : α) (hk : k < l.length) : pyInsertIdx (l.eraseIdx k) k v = l.set k v := by
  have hlen : (l.take k).length = k := List.length_take_of_le (Nat.le_of_lt hk)
  rw [pyInsertIdx, List.eraseIdx_eq_take_drop_succ, List.set_eq_take_append_cons_drop, if_pos hk,
    List.take_left' hlen, List.drop_left' hlen]

/-! ### `sorted(l, key=…)`: a stable insertion sort -/

theorem pySortedBy_cons (key : α → Rat) (x : α) (xs : List α) : pySortedBy key (x :: xs) = pyInsertBy key x (pySortedBy key xs) := rfl

theorem pyInsertBy_perm (key : α → Rat) (x : α) (s : List α) : (pyInsertBy key x s).Perm (x :: s) := by
  induction s with
  | nil => exact .rfl
  | cons y ys ih =>
    rw [pyInsertBy]
    split
    · exact .rfl
    · exact (ih.cons y).trans (.swap x y ys)

theorem pySortedBy_perm (key : α → Rat) (l : List α) : (pySortedBy key l).Perm l := by
  induction l with
  | nil => exact .rfl
  | cons x xs ih => exact (pyInsertBy_perm key x _).trans (ih.cons x)

theorem pyInsertBy_pairwise (key : α → Rat) (x : α) (s : List α) (hs : s.Pairwise fun a b => key a ≤ key b) :
    (pyInsertBy key x s).Pairwise fun a b => key a ≤ key b := by
  induction s with
  | nil => exact List.pairwise_singleton _ _
  | cons y ys ih =>
    obtain ⟨hy, hys⟩ := List.pairwise_cons.mp hs
    rw [pyInsertBy]
    split
    next hle =>
      refine List.pairwise_cons.mpr ⟨fun b hb => ?_, hs⟩
      rcases List.mem_cons.mp hb with rfl | hb
      · exact hle
      · exact Rat.le_trans hle (hy b hb)
    next hlt =>
      refine List.pairwise_cons.mpr ⟨fun b hb => ?_, ih hys⟩
      rcases List.mem_cons.mp ((pyInsertBy_perm key x ys).mem_iff.mp hb) with rfl | hb
      · exact Rat.le_of_lt (Rat.not_le.mp hlt)
      · exact hy b hb

theorem pySortedBy_pairwise (key : α → Rat) (l : List α) : (pySortedBy key l).Pairwise fun a b => key a ≤ key b := by
  induction l with
  | nil => exact .nil
  | cons x xs ih => exact pyInsertBy_pairwise key x _ ih

theorem pyInsertBy_of_le (key : α → Rat) (x : α) (s : List α) (h : ∀ y ∈ s, key x ≤ key y) : pyInsertBy key x s = x :: s := by
  cases s with
  | nil => rfl
  | cons y ys => rw [pyInsertBy, if_pos (h y List.mem_cons_self)]

/-- on a sorted list inserting commutes with filtering: `x` goes in front of the first `y` with `key x ≤ key y`, and everything behind that `y` has
such a key as well, whether or not `y` itself passes the filter -/
theorem pyInsertBy_filter (key : α → Rat) (p : α → Bool) (x : α) (s : List α) (hs : s.Pairwise fun a b => key a ≤ key b) :
    (pyInsertBy key x s).filter p = if p x then pyInsertBy key x (s.filter p) else s.filter p := by
  induction s with
  | nil => rw [pyInsertBy, List.filter_cons]; rfl
  | cons y ys ih =>
    obtain ⟨hy, hys⟩ := List.pairwise_cons.mp hs
    by_cases hle : key x ≤ key y
    · have hall : ∀ z ∈ (y :: ys).filter p, key x ≤ key z := fun z hz => by
        rcases List.mem_cons.mp (List.mem_filter.mp hz).1 with rfl | hz
        · exact hle
        · exact Rat.le_trans hle (hy z hz)
      rw [pyInsertBy, if_pos hle, pyInsertBy_of_le key x _ hall, List.filter_cons]
    · rw [pyInsertBy, if_neg hle, List.filter_cons, ih hys, List.filter_cons]
      cases p x
      · rfl
      · cases p y
        · rfl
        · exact (if_neg hle).symm

theorem pySortedBy_filter (key : α → Rat) (p : α → Bool) (l : List α) : (pySortedBy key l).filter p = pySortedBy key (l.filter p) := by
  induction l with
  | nil => rfl
  | cons x xs ih =>
    rw [List.filter_cons, apply_ite (pySortedBy key), pySortedBy_cons, pySortedBy_cons, ← ih]
    exact pyInsertBy_filter key p x _ (pySortedBy_pairwise key xs)

theorem pyInsertBy_map (key : β → Rat) (g : α → β) (x : α) (s : List α) :
    pyInsertBy key (g x) (s.map g) = (pyInsertBy (fun a => key (g a)) x s).map g := by
  induction s with
  | nil => rfl
  | cons y ys ih => rw [List.map_cons, pyInsertBy, pyInsertBy, ih, apply_ite (List.map g)]; rfl

theorem pySortedBy_map (key : β → Rat) (g : α → β) (l : List α) : pySortedBy key (l.map g) = (pySortedBy (fun a => key (g a)) l).map g := by
  induction l with
  | nil => rfl
  | cons x xs ih => rw [List.map_cons, pySortedBy_cons, pySortedBy_cons, ih, pyInsertBy_map]

theorem pyInsertBy_head? (key : α → Rat) (x : α) (s : List α) :
    (pyInsertBy key x s).head? = some (match s.head? with | none => x | some y => if key x ≤ key y then x else y) := by
  cases s with
  | nil => rfl
  | cons y ys => rw [pyInsertBy, apply_ite List.head?]; exact (apply_ite some _ x y).symm

/-- the head of the stable sort is the first minimum: the left fold that moves on only for a strictly smaller key -/
theorem pySortedBy_head? (key : α → Rat) (b : α) (l : List α) :
    (pySortedBy key (b :: l)).head? = some (l.foldl (fun best x => if key x < key best then x else best) b) := by
  induction l generalizing b with
  | nil => rfl
  | cons x xs ih =>
    rw [List.foldl_cons, ← ih, pySortedBy_cons, pySortedBy_cons, pySortedBy_cons, pyInsertBy_head?, pyInsertBy_head?, pyInsertBy_head?]
    cases (pySortedBy key xs).head? with
    | none => simp only [← Rat.not_le, ite_not]
    | some m =>
      -- the leftmost minimum of `b`, `x` and `m` (the first minimum of `xs`), taken as `(b, (x, m))` on the left and as `((b, x), m)` on the right
      by_cases hxb : key x < key b
      · by_cases hxm : key x ≤ key m
        · simp only [if_pos hxb, if_pos hxm, if_neg (Rat.not_le.mpr hxb)]
        · simp only [if_pos hxb, if_neg hxm, if_neg fun hbm => hxm (Rat.le_trans (Rat.le_of_lt hxb) hbm)]
      · by_cases hxm : key x ≤ key m
        · simp only [if_neg hxb, if_pos hxm, if_pos (Rat.not_lt.mp hxb), if_pos (Rat.le_trans (Rat.not_lt.mp hxb) hxm)]
        · simp only [if_neg hxb, if_neg hxm]

/-- the minimum of the keys is the key of the first minimum -/
theorem listMin_map (f : α → Rat) (b : α) (l : List α) :
    listMin ((b :: l).map f) = f (l.foldl (fun best x => if f x < f best then x else best) b) := by
  rw [listMin, List.map_cons, List.headD_cons, List.foldl_cons, Rat.min_def, if_pos Rat.le_refl]
  induction l generalizing b with
  | nil => rfl
  | cons x xs ih =>
    rw [List.map_cons, List.foldl_cons, List.foldl_cons, ← ih, Rat.min_def, apply_ite f]
    simp only [← Rat.not_le, ite_not]

/-! ### `np.arange` -/

theorem pyArange_length (start stop step : Rat) : (pyArange start stop step).length = ((stop - start) / step).ceil.toNat := by
  rw [pyArange, List.length_map, List.length_range]

theorem pyArange_getElem? {start stop step : Rat} {i : Nat} (h : i < ((stop - start) / step).ceil.toNat) :
    (pyArange start stop step)[i]? = some (start + (i : Rat) * step) := by
  rw [pyArange, List.getElem?_map, List.getElem?_range h]; rfl

theorem pyArange_pairwise (start stop : Rat) {step : Rat} (hs : 0 < step) : (pyArange start stop step).Pairwise (· < ·) := by
  rw [pyArange, List.pairwise_map]
  refine List.Pairwise.imp (fun {i j} hij => ?_) List.pairwise_lt_range
  exact Rat.add_lt_add_left.mpr (Rat.mul_lt_mul_of_pos_right (Rat.natCast_lt_natCast.mpr hij) hs)

/-! ### `np.histogram` -/

/-- one equation for both the last (closed) bin and the others -/
theorem pyHistBins_cons_cons (a b : Rat) (l : List Rat) : pyHistBins (a :: b :: l) = (a, b, l.isEmpty) :: pyHistBins (b :: l) := by
  cases l <;> rfl

theorem pyHistBins_length : ∀ l : List Rat, (pyHistBins l).length = l.length - 1
  | [] | [_] => rfl
  | a :: b :: l => by rw [pyHistBins_cons_cons, List.length_cons, pyHistBins_length (b :: l)]; rfl

theorem pyHistogram_length (vals edges weights : List Rat) : (pyHistogram vals edges weights).length = edges.length - 1 := by
  rw [pyHistogram, List.length_map, pyHistBins_length]

theorem pyInBin_iff {v : Rat} {b : Rat × Rat × Bool} : pyInBin v b = true ↔ b.1 ≤ v ∧ if b.2.2 then v ≤ b.2.1 else v < b.2.1 := by
  cases h : b.2.2 <;> simp [pyInBin, h]

theorem pyInBin_closed {v lo hi : Rat} : pyInBin v (lo, hi, true) = true ↔ lo ≤ v ∧ v ≤ hi := pyInBin_iff

theorem pyInBin_open {v lo hi : Rat} : pyInBin v (lo, hi, false) = true ↔ lo ≤ v ∧ v < hi := pyInBin_iff

theorem pyBinSum_cons (v w : Rat) (ps : List (Rat × Rat)) (b : Rat × Rat × Bool) :
    pyBinSum ((v, w) :: ps) b = (if pyInBin v b then w else 0) + pyBinSum ps b := by
  unfold pyBinSum
  cases h : pyInBin v b <;> simp [h, Rat.zero_add]
