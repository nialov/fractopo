import FractopoModel.Generated.SharpCorners
import FractopoModel.Lemmas.Lists
import FractopoModel.Lemmas.Loops
/-! The regenerated `SharpCornerValidator.validation_method` in closed form. -/
namespace SharpL
variable {L P V : Type}

/-- the test the segment starting at vertex `i` has to pass -/
def okAt (dflt : P) (unit : P → P → V) (is_nan : V → Bool) (aligned : V → V → Rat → Bool) (cs : List P) (chord : V) (avg prev : Rat) (i : Nat) : Bool :=
  let u := unit (cs.getD i dflt) (cs.getD (i + 1) dflt)
  (!is_nan u && aligned chord u avg) &&
    (i == 0 || (!is_nan (unit (cs.getD (i - 1) dflt) (cs.getD i dflt)) && aligned u (unit (cs.getD (i - 1) dflt) (cs.getD i dflt)) prev))

/-- One pass through the loop body over the outcomes of its four tests (the segment's direction undefined / within the average threshold of the chord,
the same two for the previous segment); `rest` is what the rest of the loop gives. -/
theorem body_eq (nan alongChord nanPrev alongPrev : Bool) (i : Nat) (rest : Loop Bool Unit) :
    (if nan || !alongChord then .ret false else if decide (i ≠ 0) then (if nanPrev || !alongPrev then .ret false else rest) else rest) =
      if (!nan && alongChord) && (i == 0 || (!nanPrev && alongPrev)) then rest else .ret false := by
  cases nan
  · cases alongChord
    · rfl
    · cases i
      · rfl
      · cases nanPrev <;> cases alongPrev <;> rfl
  · rfl

/-- The loop over any list of vertex indices: it stops quietly at the index of the last vertex and fails at the first segment before it that is not `okAt`. -/
theorem loop1_eq (coords_of : L → List P) (dflt : P) (unit : P → P → V) (is_nan : V → Bool) (aligned : V → V → Rat → Bool) (geom : L) (avg prev : Rat)
    (cs : List P) (chord : V) (is : List Nat) :
    Gen.sharp_corner_validation_loop1 coords_of dflt unit is_nan aligned geom avg prev cs chord (is.map fun i => (cs.getD i dflt, i)) =
      if (is.takeWhile (· ≠ cs.length - 1)).all (okAt dflt unit is_nan aligned cs chord avg prev) then .done () else .ret false := by
  induction is with
  | nil => rfl
  | cons i is ih =>
    rw [List.map_cons, Gen.sharp_corner_validation_loop1, ih, List.takeWhile_cons]
    by_cases hl : i = cs.length - 1
    · rw [if_pos (decide_eq_true hl), if_neg fun h => absurd hl (of_decide_eq_true h)]; rfl
    · -- `all` of the longer list is `okAt i && …`; taken apart into two nested tests (`ite_ite_and` backwards) it has the shape of the body
      rw [if_neg fun h => hl (of_decide_eq_true h), if_pos (decide_eq_true hl), List.all_cons, ← Loop.ite_ite_and]
      exact body_eq ..

end SharpL
