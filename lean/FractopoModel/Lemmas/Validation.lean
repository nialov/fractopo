import FractopoModel.Model.Validation
/-! Lemmas of the validation model `Tval` that C09 and C13 share. -/
namespace Tval
variable {G : Type} {O : Oracle G} {cfg : Cfg} {frame : List G} {idx : Nat} {v : Validator} {vs : List Validator} {s : RowSt G}

/-- A failing validator's `ERROR`, read after the call, is its own string: a dynamic validator has overwritten the class attribute by then, so the
value that came in is not read. -/
theorem errRead_of_fail (h : O.valid v frame s.geom idx = false) :
    errRead O frame idx v s = if v.dynamic then O.dynErr v frame s.geom idx else v.staticError := by
  unfold errRead globAfter
  rw [h]
  cases v.dynamic <;> rfl

/-- What `_validate` returns is computed from the geometry and the errors so far: the ignore flag that comes in is overwritten in every branch, and the class
attribute is read only after a failing validator has overwritten it (`errRead_of_fail`). So two calls that differ in these two only agree up to the class attribute. -/
theorem validateOne_glob (O : Oracle G) (cfg : Cfg) (frame : List G) (idx : Nat) (v : Validator) (s : RowSt G) (i : Bool) (gl : String) :
    ∃ gl', validateOne O cfg frame idx v { s with ignore := i, glob := gl } = { validateOne O cfg frame idx v s with glob := gl' } := by
  obtain ⟨g, e, i₀, gl₀⟩ := s
  unfold validateOne applyFail
  dsimp only
  -- the tests in the order `_validate` makes them; what they look at is the same on both sides
  generalize (v.lsOnly && !(O.kind g).gatePass) = gate
  cases gate
  · cases hok : O.valid v frame g idx
    · rw [errRead_of_fail (s := ⟨g, e, i, gl⟩) hok, errRead_of_fail (s := ⟨g, e, i₀, gl₀⟩) hok]
      dsimp only
      generalize (if v.dynamic = true then _ else _) = err
      generalize (!false && !e.contains err) = new
      cases new
      · exact ⟨_, rfl⟩
      · generalize (if cfg.allowFix = true then O.fix v g else none) = fixed
        cases fixed <;> exact ⟨_, rfl⟩
    · exact ⟨_, rfl⟩
  · exact ⟨_, rfl⟩

/-- ... and so do two runs of a row's validator loop that differ in the class attribute they start with -/
theorem validateRow_glob (O : Oracle G) (cfg : Cfg) (frame : List G) (idx : Nat) (vs : List Validator) (s : RowSt G) (gl : String) :
    ∃ gl', validateRow O cfg frame idx vs { s with glob := gl } = { validateRow O cfg frame idx vs s with glob := gl' } := by
  induction vs generalizing s gl with
  | nil => exact ⟨gl, rfl⟩
  | cons v vs ih =>
    rw [validateRow, validateRow]
    split
    · exact ⟨gl, rfl⟩
    · obtain ⟨gl₁, h₁⟩ := validateOne_glob O cfg frame idx v s s.ignore gl
      rw [h₁]
      exact ih _ gl₁

/-- **A pass is a map**: every row gets the geometry and errors of its own validator loop, run with the class attribute at ANY fixed value `g0` instead of the
value the rows before left. -/
theorem passRows_eq_map (g0 : String) (rows : List (G × Nat)) (glob : String) :
    (passRows O cfg vs frame rows glob).1 =
      rows.map fun r => ((validateRow O cfg frame r.2 vs ⟨r.1, [], false, g0⟩).geom, (validateRow O cfg frame r.2 vs ⟨r.1, [], false, g0⟩).errs) := by
  induction rows generalizing glob with
  | nil => rfl
  | cons r rest ih =>
    obtain ⟨gl, h⟩ := validateRow_glob O cfg frame r.2 vs ⟨r.1, [], false, g0⟩ glob
    simp only [passRows, List.map_cons, ih]
    rw [show (⟨r.1, [], false, glob⟩ : RowSt G) = { (⟨r.1, [], false, g0⟩ : RowSt G) with glob := glob } from rfl, h]

/-- ... for a pass over a frame, the form in which the proofs use it -/
theorem pass_eq_map (g0 : String) (glob : String) :
    (pass O cfg vs frame glob).1 =
      frame.zipIdx.map fun r => ((validateRow O cfg frame r.2 vs ⟨r.1, [], false, g0⟩).geom, (validateRow O cfg frame r.2 vs ⟨r.1, [], false, g0⟩).errs) :=
  passRows_eq_map g0 _ glob

theorem pass_length (glob : String) : (pass O cfg vs frame glob).1.length = frame.length := by
  rw [pass_eq_map "", List.length_map, List.length_zipIdx]

/-- the three ways `_validate` ends: the row is skipped by the LINESTRING_ONLY gate; the validator fails with an error not yet listed; nothing to record -/
theorem validateOne_cases {P : RowSt G → Prop}
    (gate : P { s with ignore := true })
    (fail : O.valid v frame s.geom idx = false → errRead O frame idx v s ∉ s.errs →
      P (applyFail O cfg v s (globAfter O frame idx v s) (errRead O frame idx v s)))
    (quiet : P { s with ignore := false, glob := globAfter O frame idx v s }) : P (validateOne O cfg frame idx v s) := by
  unfold validateOne
  split
  · exact gate
  · split
    · rename_i h; simp only [Bool.and_eq_true, Bool.not_eq_true', List.contains_eq_mem, decide_eq_false_iff_not] at h; exact fail h.1 h.2
    · exact quiet

theorem validateRow_preserves {P : RowSt G → Prop}
    (step : ∀ v ∈ vs, ∀ s, P s → P (validateOne O cfg frame idx v s)) (h : P s) : P (validateRow O cfg frame idx vs s) := by
  induction vs generalizing s with
  | nil => exact h
  | cons v vs ih =>
    rw [validateRow]
    split
    · exact h
    · exact ih (fun w hw => step w (by simp [hw])) (step v (by simp) s h)

/-- the outcome of `run` with the class attribute it also returns left out -/
theorem run_fst (allowEmptyArea areaEmpty : Bool) (glob : String) :
    (run O cfg allowEmptyArea areaEmpty frame glob).1 =
      if frame.isEmpty then .untouched
      else if !allowEmptyArea && areaEmpty then .emptyArea (frame.map fun g => (g, [cfg.emptyAreaError]))
      else .validated (pass O cfg (cfg.chosen.getD cfg.all) ((pass O cfg (cfg.chosen.getD cfg.major) frame glob).1.map (·.1))
        (pass O cfg (cfg.chosen.getD cfg.major) frame glob).2).1 := by
  unfold run
  generalize frame.isEmpty = empty
  generalize (!allowEmptyArea && areaEmpty) = exit
  cases empty
  · cases exit <;> rfl
  · rfl

/-- the rows `run` reports as validated are those of the second pass, made over the geometries the first pass left -/
theorem run_validated {allowEmptyArea areaEmpty : Bool} {glob : String} {rows : List (G × List String)}
    (h : (run O cfg allowEmptyArea areaEmpty frame glob).1 = .validated rows) :
    rows = (pass O cfg (cfg.chosen.getD cfg.all) ((pass O cfg (cfg.chosen.getD cfg.major) frame glob).1.map (·.1))
      (pass O cfg (cfg.chosen.getD cfg.major) frame glob).2).1 := by
  rw [run_fst] at h
  generalize frame.isEmpty = empty at h
  generalize (!allowEmptyArea && areaEmpty) = exit at h
  cases empty <;> cases exit <;> cases h
  rfl

end Tval
