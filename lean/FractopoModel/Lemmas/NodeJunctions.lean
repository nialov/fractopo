import FractopoModel.Generated.NodeJunctions
import FractopoModel.Spec.Junctions
import FractopoModel.Lemmas.Loops
import FractopoModel.Lemmas.Prelude
import FractopoModel.Lemmas.Lists
/-!
# The regenerated `determine_node_junctions` marks exactly the documented junction traces

`Gen.determine_node_junctions` is regenerated from fractopo/general.py on every run: both loops, the removal of the
current trace's own block from the flattened point series (`.loc[mask]`), the index shift, `.iloc`, the distance mask,
the error threshold, the marking of the trace and of the owners of the close points.  The spatial-index query and the
distance are parameters.

Specification (hand-written, at the level of the flattened positions): position `a` (a point of trace `o[a]`) has the
*hits* `H(a)` = positions of points of OTHER traces strictly within `d = t·m`; when `|H(a)| ≥ max(threshold, 1)` the trace
`o[a]` and the owners of all hits are marked.  Law of the query (`QueryLaw`): duplicate-free positions containing every position
within `d` (extras, also out of range, are allowed: the code keeps only the labels that remain in the series).

Proof.  In the list of owners a trace `i` owns one block of positions (`Block`, `block_of_mem`, `getD_block`); so the series without its
points is the series with that block cut out (`Block.locMask_eq`), the shifted index finds every other position again (`Block.shift`, an
instance of `getElem?_shift`, the lemma behind `C02_shift_correct`), and the labels kept for a point are the positions the query returned
whose owner is another trace and whose point is within `d` (`kept`, `Block.labels`).  All three loops only add marks: each is stated by what it adds
(`mem_loop3`, `Block.mem_loop2`, `mem_loop1`, instances of `Loop.grows`), and the points of the tuples with the tuples' indices are the flattened positions with their owners (`exists_point_iff`),
which gives the result at the level of the query (`generated_mem`).  Under the query law the kept positions are the hits up to order
(`kept_perm_hits`).
-/
namespace NodeJunctions
variable {P : Type}

/-- owner index of every flattened element, for a list of tuples whose first tuple has index `n` -/
def ownersFrom (n : Nat) (ls : List (List P)) : List Nat := (ls.zipIdx n).flatMap fun x => x.1.map fun _ => x.2

def flat (ls : List (List P)) : List P := ls.flatMap id

theorem pyFlatten_eq (ls : List (List P)) : pyFlattenTuples ls = (ownersFrom 0 ls, flat ls) := rfl

theorem ownersFrom_cons (n : Nat) (a : List P) (ls : List (List P)) :
    ownersFrom n (a :: ls) = List.replicate a.length n ++ ownersFrom (n + 1) ls := by
  simp only [ownersFrom, List.zipIdx_cons, List.flatMap_cons, List.map_const']

theorem ownersFrom_append (n : Nat) (a b : List (List P)) :
    ownersFrom n (a ++ b) = ownersFrom n a ++ ownersFrom (n + a.length) b := by
  simp only [ownersFrom, List.zipIdx_append, List.flatMap_append]

theorem ownersFrom_length (n : Nat) (ls : List (List P)) : (ownersFrom n ls).length = (flat ls).length := by
  rw [ownersFrom, flat, List.length_flatMap, List.length_flatMap, ← List.zipIdx_map_fst n ls, List.map_map]
  simp only [Function.comp_def, List.length_map, id_eq, List.zipIdx_map_fst]

theorem ownersFrom_range (n : Nat) (ls : List (List P)) : ∀ k ∈ ownersFrom n ls, n ≤ k ∧ k < n + ls.length := by
  intro k hk
  obtain ⟨x, hx, hk⟩ := List.mem_flatMap.mp hk
  obtain ⟨-, -, rfl⟩ := List.mem_map.mp hk
  exact ⟨(List.mem_zipIdx hx).1, (List.mem_zipIdx hx).2.1⟩

theorem flat_cons (a : List P) (ls : List (List P)) : flat (a :: ls) = a ++ flat ls := rfl

theorem zip_flat_owners (n : Nat) (ls : List (List P)) :
    (flat ls).zip (ownersFrom n ls) = (ls.zipIdx n).flatMap fun x => x.1.map fun p => (p, x.2) := by
  induction ls generalizing n with
  | nil => rfl
  | cons a ls ih =>
    rw [ownersFrom_cons, flat_cons, List.zip_append (by simp), ih, List.zipIdx_cons, List.flatMap_cons, ← List.map_const',
      List.zip_eq_zipWith, List.zipWith_map_right, List.zipWith_self]

/-- ranging over the points of every tuple, with the tuple's index, is ranging over the flattened positions, with the owner recorded there -/
theorem exists_point_iff (ls : List (List P)) (R : P → Nat → Prop) :
    (∃ x ∈ ls.zipIdx, ∃ pt ∈ x.1, R pt x.2) ↔ ∃ y ∈ (flat ls).zipIdx, R y.1 ((ownersFrom 0 ls).getD y.2 0) := by
  have hz : ∀ pt i, (pt, i) ∈ (flat ls).zip (ownersFrom 0 ls) ↔ ∃ x ∈ ls.zipIdx, pt ∈ x.1 ∧ x.2 = i := by
    intro pt i
    rw [zip_flat_owners]
    simp only [List.mem_flatMap, List.mem_map, Prod.mk.injEq]
    exact exists_congr fun x => and_congr_right fun _ => ⟨fun ⟨p, hp, e, hi⟩ => ⟨e ▸ hp, hi⟩, fun ⟨hp, hi⟩ => ⟨pt, hp, rfl, hi⟩⟩
  constructor
  · rintro ⟨x, hx, pt, hpt, hR⟩
    obtain ⟨a, ha⟩ := List.mem_iff_getElem?.mp ((hz pt x.2).mpr ⟨x, hx, hpt, rfl⟩)
    rw [List.getElem?_zip_eq_some] at ha
    refine ⟨(pt, a), List.mem_zipIdx_iff_getElem?.mpr ha.1, ?_⟩
    rwa [List.getD_eq_getElem?_getD, ha.2]
  · rintro ⟨⟨pt, a⟩, hy, hR⟩
    have hf : (flat ls)[a]? = some pt := List.mem_zipIdx_iff_getElem?.mp hy
    have hlt : a < (ownersFrom 0 ls).length := by rw [ownersFrom_length]; exact (List.getElem?_eq_some_iff.mp hf).1
    rw [List.getD_eq_getElem?_getD, List.getElem?_eq_getElem hlt] at hR
    obtain ⟨x, hx, hpt, hi⟩ := (hz pt _).mp (List.mem_iff_getElem?.mpr ⟨a, List.getElem?_zip_eq_some.mpr ⟨hf, List.getElem?_eq_getElem hlt⟩⟩)
    exact ⟨x, hx, pt, hpt, hi ▸ hR⟩

/-! ### a list of owners in which owner `i` has one block: `o₁ ++ (replicate c i ++ o₂)` with `i` in neither `o₁` nor `o₂` -/

theorem map_bne_of_not_mem {l : List Nat} {i : Nat} (h : i ∉ l) : l.map (· != i) = List.replicate l.length true := by
  rw [← List.map_const']
  exact List.map_congr_left fun a ha => by simpa using fun e : a = i => h (e ▸ ha)

/-- the positions owned by others are those outside the block of `i` -/
theorem getD_block {o₁ o₂ : List Nat} {i : Nat} (h₁ : i ∉ o₁) (h₂ : i ∉ o₂) (c : Nat) {b : Nat} (hb : b < o₁.length + c + o₂.length) :
    (o₁ ++ (List.replicate c i ++ o₂)).getD b 0 ≠ i ↔ b < o₁.length ∨ o₁.length + c ≤ b := by
  have hlt : b < (o₁ ++ (List.replicate c i ++ o₂)).length := by simp only [List.length_append, List.length_replicate]; omega
  rw [List.getD_eq_getElem?_getD, List.getElem?_eq_getElem hlt, Option.getD_some, List.getElem_append]
  split
  · next h => exact iff_of_true (fun e => h₁ (e ▸ List.getElem_mem h)) (Or.inl h)
  · rw [List.getElem_append]
    split
    · next h h' => rw [List.getElem_replicate]; exact iff_of_false (fun hne => hne rfl) (by rw [List.length_replicate] at h'; omega)
    · next h h' => exact iff_of_true (fun e => h₂ (e ▸ List.getElem_mem _)) (Or.inr (by rw [List.length_replicate] at h'; omega))

/-! ### the point series without the block -/

/-- **shift correctness** at the level of lists: with the block `[s, s + c)` cut out, a position outside it is found at the shifted position -/
theorem getElem?_shift {α : Type} (l : List α) {s c v : Nat} (hs : s + c ≤ l.length) (h : v < s ∨ s + c ≤ v) :
    (l.take s ++ l.drop (s + c))[if v < s then v else v - c]? = l[v]? := by
  have hlen : (l.take s).length = s := by rw [List.length_take]; omega
  rcases h with h | h
  · rw [if_pos h, List.getElem?_append_left (by omega), List.getElem?_take_of_lt h]
  · rw [if_neg (by omega), List.getElem?_append_right (by omega), List.getElem?_drop, hlen]
    congr 1; omega

/-! ### what the loops keep and mark -/

/-- the positions the inner loop keeps for point `pt` of trace `i`: of those the query returned, the positions of other traces (`remaining_idxs`) whose
point is strictly within `d` (the distance mask) -/
def kept (o : List Nat) (f : List P) (dist : P → P → Rat) (d : Rat) (q : List Nat) (i : Nat) (pt : P) : List Nat :=
  (q.filter fun v => decide (v < f.length) && o.getD v 0 != i).filter fun v => (f[v]?).any fun x => decide (dist x pt < d)

/-- trace `k` is marked by a point of trace `i` whose kept positions are `lab`: there are at least `max thr 1` of them, and `k` is `i` or owns one -/
def Marks (o : List Nat) (thr i : Nat) (lab : List Nat) (k : Nat) : Prop :=
  (lab.length ≥ thr ∧ lab.length ≠ 0) ∧ (k = i ∨ ∃ b ∈ lab, k = o.getD b 0)

theorem Marks.perm {o : List Nat} {thr i : Nat} {lab lab' : List Nat} {k : Nat} (h : lab.Perm lab') : Marks o thr i lab k ↔ Marks o thr i lab' k := by
  unfold Marks; rw [h.length_eq]; simp only [h.mem_iff]

section
variable {query : P → Rat → List Nat} {dist : P → P → Rat} {nodes : List (List P)} {t m : Rat} {thr : Nat}

theorem mem_loop3 (o : List Nat) (data : List Bool) (cands : List (Nat × P)) (l acc : List Nat) (k : Nat) :
    k ∈ Gen.determine_node_junctions_loop3 query dist nodes t m thr o data cands l acc ↔ k ∈ acc ∨ ∃ b ∈ l, k = o.getD b 0 :=
  Loop.grows (M := (k ∈ ·)) (fun _ => rfl) (fun _ _ _ _ => ⟨_, rfl, mem_pySetAdd⟩) acc

/-! ### the inner loop for a trace that owns one block of the points -/

/-- in the owners `o` of the points `f`, trace `i` owns exactly the block `fc`, between the points `f₁` and `f₂` of other traces -/
structure Block (o : List Nat) (f : List P) (i : Nat) (f₁ fc f₂ : List P) : Prop where
  points : f = f₁ ++ (fc ++ f₂)
  owners : ∃ o₁ o₂, o = o₁ ++ (List.replicate fc.length i ++ o₂) ∧ o₁.length = f₁.length ∧ o₂.length = f₂.length ∧ i ∉ o₁ ∧ i ∉ o₂

/-- every tuple owns its block of the flattened points -/
theorem block_of_mem {nodes : List (List P)} {cur : List P} {i : Nat} (hx : (cur, i) ∈ nodes.zipIdx) :
    ∃ f₁ f₂, Block (ownersFrom 0 nodes) (flat nodes) i f₁ cur f₂ := by
  obtain ⟨pre, post, rfl, rfl⟩ : ∃ pre post, nodes = pre ++ cur :: post ∧ pre.length = i := by
    have hi : nodes[i]? = some cur := List.mem_zipIdx_iff_getElem?.mp hx
    obtain ⟨hlt, he⟩ := List.getElem?_eq_some_iff.mp hi
    exact ⟨nodes.take i, nodes.drop (i + 1), by rw [← he, List.getElem_cons_drop, List.take_append_drop], by simp; omega⟩
  refine ⟨flat pre, flat post, by simp [flat], ownersFrom 0 pre, ownersFrom (pre.length + 1) post, ?_, ownersFrom_length 0 pre, ownersFrom_length _ post,
    fun hm => ?_, fun hm => ?_⟩
  · rw [ownersFrom_append, ownersFrom_cons, Nat.zero_add]
  · have := ownersFrom_range 0 pre _ hm; omega
  · have := ownersFrom_range _ post _ hm; omega

namespace Block
variable {o : List Nat} {f : List P} {i : Nat} {f₁ fc f₂ : List P} (B : Block o f i f₁ fc f₂)
include B

/-- the flattened series without the points of trace `i` is the series with the block cut out -/
theorem locMask_eq : pyLocMask (pySeries f) (o.map (· != i)) = (pySeries f).take f₁.length ++ (pySeries f).drop (f₁.length + fc.length) := by
  obtain ⟨rfl, o₁, o₂, rfl, e₁, e₂, h₁, h₂⟩ := B
  rw [List.map_append, List.map_append, map_bne_of_not_mem h₁, map_bne_of_not_mem h₂, List.map_replicate, bne_self_eq_false, pyLocMask, e₁,
    pyCompress_block (by simp [pySeries_length, e₂]; omega)]

theorem length_eq : f.length = f₁.length + fc.length + f₂.length := by
  rw [B.points]; simp; omega

theorem idxOf (hc : fc ≠ []) : List.idxOf i o = f₁.length := by
  obtain ⟨-, o₁, o₂, rfl, e₁, -, h₁, -⟩ := B
  obtain ⟨p, ps, rfl⟩ := List.exists_cons_of_ne_nil hc
  simp [List.idxOf_append, h₁, List.replicate_succ, e₁]

theorem outside {v : Nat} (hv : v < f.length) : o.getD v 0 ≠ i ↔ v < f₁.length ∨ f₁.length + fc.length ≤ v := by
  have hlen := B.length_eq
  obtain ⟨-, o₁, o₂, rfl, e₁, e₂, h₁, h₂⟩ := B
  rw [getD_block h₁ h₂ fc.length (by omega), e₁]

/-- the labels that remain are the positions of the other traces -/
theorem elem_labels (v : Nat) :
    List.elem v ((pyLocMask (pySeries f) (o.map (· != i))).map Prod.fst) = (decide (v < f.length) && o.getD v 0 != i) := by
  have hle : f₁.length + fc.length ≤ f.length := B.length_eq ▸ Nat.le_add_right _ _
  -- they are `[0, |f₁|)` and `[|f₁| + |fc|, |f|)`
  rw [B.locMask_eq, List.map_append, List.map_take, List.map_drop, pySeries_fst, List.take_range'_of_length_ge (by omega), List.drop_range', Bool.eq_iff_iff]
  simp only [List.elem_eq_contains, List.contains_eq_mem, List.mem_append, List.mem_range'_1, Bool.and_eq_true, decide_eq_true_eq, bne_iff_ne,
    Nat.zero_add, Nat.zero_le, true_and, Nat.mul_one, Nat.add_sub_cancel' hle]
  by_cases hv : v < f.length
  · rw [B.outside hv, and_iff_left hv, and_iff_right hv]
  · exact iff_of_false (by omega) fun h => hv h.1

/-- **shift correctness inside the generated code**: a position of another trace, after the shift, addresses its own label and point in the series
without the block -/
theorem shift {v : Nat} (hv : v < f.length) (hne : o.getD v 0 ≠ i) :
    (pyLocMask (pySeries f) (o.map (· != i)))[if v < f₁.length then v else v - fc.length]? = (pySeries f)[v]? := by
  rw [B.locMask_eq]
  exact getElem?_shift _ (by rw [pySeries_length, B.length_eq]; omega) ((B.outside hv).mp hne)

/-- the labels the inner loop keeps, in terms of the whole series -/
theorem labels (d : Rat) (q : List Nat) (pt : P) :
    ((pyIloc (pyLocMask (pySeries f) (o.map (· != i)))
        ((q.filter fun v => List.elem v ((pyLocMask (pySeries f) (o.map (· != i))).map Prod.fst)).map
          fun v => if v < f₁.length then v else v - fc.length)).filter fun x => decide (dist x.2 pt < d)).map Prod.fst
      = kept o f dist d q i pt := by
  rw [kept, ← pyIloc_pySeries_filter, List.filter_congr fun v _ => B.elem_labels v]
  congr 2
  rw [pyIloc, pyIloc, List.filterMap_map]
  apply List.filterMap_congr
  intro v hv
  simp only [List.mem_filter, Bool.and_eq_true, decide_eq_true_eq, bne_iff_ne] at hv
  exact B.shift hv.2.1 hv.2.2

/-- the inner loop for trace `i`: every point marks by the positions it keeps -/
theorem mem_loop2 (hc : fc ≠ []) (points : List P) (pts : List (P × Nat)) (acc : List Nat) (k : Nat) :
    k ∈ Gen.determine_node_junctions_loop2 query dist nodes t m thr () (pyLocMask (pySeries f) (o.map (· != i))) i o fc.length points pts acc ↔
      k ∈ acc ∨ ∃ pt ∈ pts.map Prod.fst, Marks o thr i (kept o f dist (t * m) (query pt (t * m * 10)) i pt) k := by
  rw [List.exists_mem_map]
  refine Loop.grows (M := (k ∈ ·)) (fun _ => rfl) ?_ acc
  rintro ⟨pt, j⟩ - rest acc
  rw [Gen.determine_node_junctions_loop2]
  -- in the vocabulary of `kept`: the labels compressed by the distance mask are the labels of the filtered candidates (`pyCompress_self`), the
  -- mask's count of `True` is their number, and that number is compared with 0 as a rational
  simp only [List.map_map, pyCompress_self, List.countP_eq_length_filter, List.filter_map, List.length_map, decide_eq_true_eq,
    Rat.natCast_eq_zero_iff, Function.comp_def, id_eq, B.idxOf hc]
  rw [← List.length_map (f := Prod.fst), B.labels]
  generalize kept o f dist (t * m) (query pt (t * m * 10)) i pt = lab
  unfold Marks
  by_cases h : lab.length = 0
  · exact ⟨acc, by rw [if_pos h], Or.inl, fun h' => h'.elim id fun hm => absurd h hm.1.2⟩
  · by_cases h' : lab.length ≥ thr
    · exact ⟨_, by rw [if_neg h, if_pos h'], by rw [mem_loop3, mem_pySetAdd, or_assoc, and_iff_right ⟨h', h⟩]⟩
    · exact ⟨acc, by rw [if_neg h, if_neg h'], Or.inl, fun h'' => h''.elim id fun hm => absurd hm.1.1 h'⟩

end Block

/-! ### the outer loop and membership in the result -/

/-- the outer loop: the points of a trace without points mark nothing, the others through the inner loop of their block -/
theorem mem_loop1 (acc : List Nat) (k : Nat) :
    k ∈ Gen.determine_node_junctions_loop1 query dist nodes t m thr (pySeries (flat nodes)) (ownersFrom 0 nodes) () nodes.zipIdx acc ↔
      k ∈ acc ∨ ∃ x ∈ nodes.zipIdx, ∃ pt ∈ x.1, Marks (ownersFrom 0 nodes) thr x.2 (kept (ownersFrom 0 nodes) (flat nodes) dist (t * m) (query pt (t * m * 10)) x.2 pt) k := by
  refine Loop.grows (M := (k ∈ ·)) (fun _ => rfl) ?_ acc
  rintro ⟨cur, i⟩ hx rest acc
  rw [Gen.determine_node_junctions_loop1]
  simp only [decide_eq_true_eq]
  by_cases h : cur.length = 0
  · exact ⟨acc, by rw [if_pos h], by simp [List.eq_nil_of_length_eq_zero h]⟩
  · obtain ⟨f₁, f₂, B⟩ := block_of_mem hx
    exact ⟨_, by rw [if_neg h], by rw [B.mem_loop2 (fun hc => h (by rw [hc]; rfl)), List.zipIdx_map_fst]⟩

end

/-- **Refinement, query level**: trace `k` is in the result of the regenerated function exactly when some point, of trace `i` say, keeps at least
`max threshold 1` positions of other traces and `k` is `i` or the owner of a kept position -/
theorem generated_mem (query : P → Rat → List Nat) (dist : P → P → Rat) (nodes : List (List P)) (t m : Rat) (thr : Nat) (k : Nat) :
    k ∈ Gen.determine_node_junctions query dist nodes t m thr ↔ ∃ y ∈ (flat nodes).zipIdx,
      Marks (ownersFrom 0 nodes) thr ((ownersFrom 0 nodes).getD y.2 0)
        (kept (ownersFrom 0 nodes) (flat nodes) dist (t * m) (query y.1 (t * m * 10)) ((ownersFrom 0 nodes).getD y.2 0) y.1) k := by
  show (k ∈ if decide (nodes.length = 0) then [] else if decide ((flat nodes).length = 0) then []
    else Gen.determine_node_junctions_loop1 query dist nodes t m thr (pySeries (flat nodes)) (ownersFrom 0 nodes) () nodes.zipIdx []) ↔ _
  split
  -- both early returns: there are no points, so the right side ranges over nothing
  · next h => simp [List.eq_nil_of_length_eq_zero (of_decide_eq_true h), flat]
  · split
    · next h => simp [List.eq_nil_of_length_eq_zero (of_decide_eq_true h)]
    · rw [mem_loop1]
      simp only [List.not_mem_nil, false_or]
      exact exists_point_iff nodes fun pt i =>
        Marks (ownersFrom 0 nodes) thr i (kept (ownersFrom 0 nodes) (flat nodes) dist (t * m) (query pt (t * m * 10)) i pt) k

/-! ### from the query to the specification -/

/-- law of the spatial-index parameter: for every point the query (window `w`) returns duplicate-free positions that include every
position whose point is strictly within `d` -/
def QueryLaw (query : P → Rat → List Nat) (dist : P → P → Rat) (f : List P) (d w : Rat) : Prop :=
  ∀ pt, (query pt w).Nodup ∧ ∀ b x, f[b]? = some x → dist x pt < d → b ∈ query pt w

theorem mem_hits (dist : P → P → Rat) (o : List Nat) (f : List P) (d : Rat) (a : Nat) (pt : P) (b : Nat) :
    b ∈ Spec.junctionHits dist o f d a pt ↔ ∃ x, f[b]? = some x ∧ o.getD b 0 ≠ o.getD a 0 ∧ dist x pt < d := by
  unfold Spec.junctionHits
  simp only [List.mem_map, List.mem_filter, Bool.and_eq_true, bne_iff_ne, ne_eq, decide_eq_true_eq]
  constructor
  · rintro ⟨⟨x, j⟩, ⟨hmem, h1, h2⟩, rfl⟩
    exact ⟨x, List.mem_zipIdx_iff_getElem?.mp hmem, h1, h2⟩
  · rintro ⟨x, hx, h1, h2⟩
    exact ⟨(x, b), ⟨List.mem_zipIdx_iff_getElem?.mpr hx, h1, h2⟩, rfl⟩

theorem hits_nodup (dist : P → P → Rat) (o : List Nat) (f : List P) (d : Rat) (a : Nat) (pt : P) :
    (Spec.junctionHits dist o f d a pt).Nodup := by
  unfold Spec.junctionHits
  refine (List.filter_sublist.map _).nodup ?_
  rw [List.zipIdx_map_snd]
  exact List.nodup_range'

/-- of duplicate-free candidates `q` that include every position within `d` of `pt`, the positions the generated code keeps for the point `pt` of
trace `i` are, up to order, the specified hits of that point -/
theorem kept_perm_hits {dist : P → P → Rat} {o : List Nat} {f : List P} {d : Rat} {q : List Nat} {pt : P} (hnd : q.Nodup)
    (hq : ∀ b x, f[b]? = some x → dist x pt < d → b ∈ q) {a i : Nat} (ha : o.getD a 0 = i) :
    (kept o f dist d q i pt).Perm (Spec.junctionHits dist o f d a pt) := by
  refine (List.perm_ext_iff_of_nodup ((hnd.filter _).filter _) (hits_nodup dist o f d a pt)).mpr fun b => ?_
  rw [mem_hits, ha]
  simp only [List.mem_filter, Bool.and_eq_true, decide_eq_true_eq, bne_iff_ne, Option.any_eq_true]
  constructor
  · rintro ⟨⟨-, -, hne⟩, x, hx, hd⟩
    exact ⟨x, hx, hne, hd⟩
  · rintro ⟨x, hx, hne, hd⟩
    exact ⟨⟨hq b x hx hd, (List.getElem?_eq_some_iff.mp hx).1, hne⟩, x, hx, hd⟩

theorem mem_marks (dist : P → P → Rat) (o : List Nat) (f : List P) (d : Rat) (thr : Nat) (k : Nat) :
    k ∈ Spec.junctionMarks dist o f d thr ↔ ∃ x ∈ f.zipIdx, Marks o thr (o.getD x.2 0) (Spec.junctionHits dist o f d x.2 x.1) k := by
  unfold Spec.junctionMarks Marks
  rw [List.mem_flatMap]
  refine exists_congr fun x => and_congr_right fun _ => ?_
  dsimp only
  split
  · next h => rw [and_iff_right h]; simp only [List.mem_cons, List.mem_map, @eq_comm _ k]
  · next h => exact iff_of_false List.not_mem_nil fun h' => h h'.1

end NodeJunctions
