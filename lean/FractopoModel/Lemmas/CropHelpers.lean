import FractopoModel.Generated.CropHelpers
import FractopoModel.Lemmas.Loops
import FractopoModel.Lemmas.Prelude
/-! Closed forms of the regenerated `dissolve_multi_part_traces` (GeoDataFrame branch) and `is_empty_area`. -/
namespace CropH
variable {D G A : Type}

section Dissolve
variable (is_mls is_ls : G → Bool) (parts : G → List G) (traces : List (D × G))

theorem loop2_eq (row : D × G) (all l : List G) (acc : List (D × G)) :
    Gen.dissolve_multi_part_traces_loop2 is_mls is_ls parts traces row all l acc = acc ++ l.map fun g => (row.1, g) := by
  rw [List.map_eq_flatMap]; apply Loop.collect <;> intros <;> rfl

theorem loop1_eq (mls : List (D × G)) (asl : List (List G)) (l : List ((D × G) × List G)) (acc : List (D × G)) :
    Gen.dissolve_multi_part_traces_loop1 is_mls is_ls parts traces mls asl l acc =
      if l.any (fun x => x.2.isEmpty) then .ret (.error "ValueError") else .done (acc ++ l.flatMap fun x => x.2.map fun g => (x.1.1, g)) := by
  apply Loop.scanCollect
  · intros; rfl
  · rintro ⟨row, ps⟩ l acc; rw [Gen.dissolve_multi_part_traces_loop1, loop2_eq]; cases ps <;> rfl

end Dissolve

section EmptyArea
variable (window : A → List Nat) (meets : G → A → Bool) (area : List A) (traces : List G)

theorem empty_loop2_eq (a : A) (pot l : List G) :
    Gen.is_empty_area_loop2 window meets area traces a pot l = if l.any (fun tr => meets tr a) then .ret false else .done () := by
  apply Loop.scan <;> intros <;> rfl

theorem empty_loop1_eq (l : List A) :
    Gen.is_empty_area_loop1 window meets area traces l =
      if l.any (fun a => ((window a).filterMap fun i => traces[i]?).any fun tr => meets tr a) then .ret false else .done () := by
  apply Loop.scan
  · rfl
  · intro a l; simp only [Gen.is_empty_area_loop1, empty_loop2_eq]; cases List.any _ _ <;> rfl

/-- **`is_empty_area` in closed form**: the target area is void of traces iff no area row is met by a trace its index window reports -/
theorem generated_is_empty_area :
    Gen.is_empty_area window meets area traces = !(area.any fun a => ((window a).filterMap fun i => traces[i]?).any fun tr => meets tr a) := by
  rw [Gen.is_empty_area, empty_loop1_eq]; cases List.any _ _ <;> rfl

end EmptyArea

end CropH
