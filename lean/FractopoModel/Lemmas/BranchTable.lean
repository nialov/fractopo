import FractopoModel.Lemmas.Lists
import FractopoModel.Lemmas.Prelude
/-!
# The regenerated branch-labelling loop refines `Topo.branchLabel`

`Gen.get_branch_identities` is regenerated from fractopo/branches_and_nodes.py (the loop over the
branches, the bounding-box query for node candidates, `iloc`, the distance mask, `compress`, the
three counts, the call of `determine_branch_identity`).  Law of the query parameter (`BoxLaw`): the
candidates are the positions of a sub-selection of the nodes (any order, no repetition) that
contains every node within the threshold of the branch's ends.  Here is what one iteration counts under that
law; `C05_generated_branch_labels` closes the loop.
-/
namespace BranchTable
variable {B N : Type}

/-- the bounding-box query returns, in some order and without repetition, the positions of the nodes
satisfying some box predicate `inBox`, and every node within the threshold is inside the box -/
def BoxLaw (bquery : B → List Nat) (edist : N → B → Rat) (ns : List N) (t : Rat) (br : B) : Prop :=
  ∃ inBox : N → Bool, (bquery br).Perm ((ns.zipIdx.filter fun x => inBox x.1).map (·.2)) ∧ ∀ n ∈ ns, edist n br < t → inBox n = true

/-- the classes that one iteration counts are those of ALL nodes within the threshold, in some order -/
theorem near_types_perm {bquery : B → List Nat} {edist : N → B → Rat} {ns : List N} {t : Rat} {br : B} (dflt : N) (cls : N → String)
    (law : BoxLaw bquery edist ns t br) :
    (pyCompress ((bquery br).map fun i => (ns.map cls).getD i "")
      ((((bquery br).map fun i => ns.getD i dflt).map fun n => edist n br).map fun d => decide (d < t))).Perm
      ((ns.filter fun n => decide (edist n br < t)).map cls) := by
  obtain ⟨inBox, hperm, hcovers⟩ := law
  -- data and mask are images of the candidate positions: `compress` filters the positions, which may be taken in the order of the law
  rw [List.map_map, List.map_map, pyCompress_map]
  refine ((hperm.filter _).map _).trans (.of_eq ?_)
  rw [List.filter_map, List.map_map, List.filter_filter, ← List.map_filter_zipIdx ns _ cls 0]
  simp only [Function.comp_def]
  -- at the position `x.2` both lookups find the node `x.1`
  have hget : ∀ x ∈ ns.zipIdx, ns[x.2]? = some x.1 := fun x => List.mem_zipIdx_iff_getElem?.mp
  have hfilter : ∀ x ∈ ns.zipIdx, (decide (edist (ns.getD x.2 dflt) br < t) && inBox x.1) = decide (edist x.1 br < t) := by
    intro x hx
    rw [List.getD_eq_getElem?_getD, hget x hx, Option.getD_some]
    cases h : decide (edist x.1 br < t)
    · rfl
    · exact hcovers x.1 (List.mem_of_getElem? (hget x hx)) (of_decide_eq_true h)
  rw [List.filter_congr hfilter]
  apply List.map_congr_left
  intro x hx
  simp [List.getD_eq_getElem?_getD, hget x (List.mem_filter.mp hx).1]

end BranchTable
