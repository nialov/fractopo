import FractopoModel.Lemmas.SimpleSnap
import FractopoModel.Generated.SnapStage
import FractopoModel.Lemmas.Loops
import FractopoModel.Lemmas.Lists
/-!
# The regenerated snapping pass (`resolve_trace_candidates`, `snap_trace_simple`, `snap_others_to_trace`, `snap_traces`) refines the model
-/
namespace SnapStageL
open SnapL SimpleSnapL

/-- `geom_bounds` -/
def boundsE (l : Polyline) : Rat × Rat × Rat × Rat := ((bboxOf l).minx, (bboxOf l).miny, (bboxOf l).maxx, (bboxOf l).maxy)

/-- the spatial index over the ORIGINAL traces: positions of the traces whose bounding box meets the window, in the (unspecified)
order `ord` -/
def indexE (ord : Ord) (orig : List Polyline) (w : Rat × Rat × Rat × Rat) : List Nat :=
  ord.ap ((List.range orig.length).filter fun i => (bboxOf (orig.getD i [])).meets ⟨w.1, w.2.1, w.2.2.1, w.2.2.2⟩)

/-- the regenerated `resolve_trace_candidates` pads `traces[i]` with the trace itself, the model with `[]`: every index the
spatial index returns is a position of `orig`, so neither default is read -/
theorem resolve_eq (ord : Ord) (t : Rat) (orig traces : List Polyline) (idx : Nat) (trace : Polyline) (hlen : traces.length = orig.length) :
    Gen.resolve_trace_candidates boundsE (indexE ord orig) trace idx traces t
      = (candidateIdxs ord (t * 20) orig idx trace).map fun ci => ci.map fun i => traces.getD i [] := by
  unfold Gen.resolve_trace_candidates candidateIdxs boundsE indexE Box.expand
  simp only [List.elem_eq_contains]
  generalize hh : ord.ap (List.filter _ (List.range orig.length)) = hits
  have hr : ∀ i ∈ hits.erase idx, traces.getD i trace = traces.getD i [] := fun i hi => by
    have := List.mem_of_mem_erase hi
    rw [← hh, mem_ap, List.mem_filter, List.mem_range, ← hlen] at this
    exact List.getD_irrel this.1 _ _
  cases hits.contains idx
  · rfl
  · exact congrArg Except.ok (List.map_congr_left hr)

/-- the regenerated callee `simple_snap` run on squared distances, as the parameter of `snap_trace_simple` -/
def simpleSnapG (trace : Polyline) (cands : List Polyline) (thr : Rat) : Except String (Polyline × Bool) :=
  Gen.simple_snap ends (ldistE thr) interior (fun a b => a == b) (fun a b => Pt.dist2 a b) interE id id trace cands (thr * thr)

/-- **Refinement**: the regenerated `snap_trace_simple` (candidates by the extended bounds through the index, own index removed
with `list.remove`'s ValueError, no candidates ⇒ unchanged, else the regenerated `simple_snap`) is the model's `snapTraceSimple` -/
theorem generated_snap_trace_simple (ord : Ord) (t : Rat) (orig : List Polyline) (idx : Nat) (trace : Polyline) :
    Gen.snap_trace_simple boundsE (indexE ord orig) simpleSnapG idx trace t orig = snapTraceSimple ord t (t * 20) orig idx trace := by
  unfold Gen.snap_trace_simple snapTraceSimple
  rw [resolve_eq ord t orig orig idx trace rfl]
  cases candidateIdxs ord (t * 20) orig idx trace with
  | error e => rfl
  | ok ci =>
    simp only [Except.map, List.decide_length_eq_zero]
    split
    · rfl
    · unfold simpleSnapG
      rw [generated_simple_snap]
      cases simpleSnap t trace (ci.map fun i => orig.getD i []) <;> rfl

/-! ### second stage for one trace -/

variable {P A : Type}

theorem boundary_filter_eq (bdist : P → A → Rat) (ep : P) (areas : List A) (t : Rat) :
    Gen.is_endpoint_close_to_boundary bdist ep areas t = areas.any (fun a => decide (bdist ep a < t)) := by
  unfold Gen.is_endpoint_close_to_boundary
  rw [Loop.scan (f := Gen.is_endpoint_close_to_boundary_loop1 bdist ep areas t) rfl fun _ _ => rfl]
  cases areas.any _ <;> rfl

/-- the distance law is needed for the ends in the list and the one trace only -/
theorem snap_to_another_eq (dist : Pt → Polyline → Rat) (t : Rat) (eps : List Pt) (another : Polyline)
    (hdist : ∀ ep ∈ eps, decide (dist ep another < t) = near t ep another) :
    Gen.snap_trace_to_another dist (fun ep l => onLine ep l) (fun l ep thr => Snap.insertGeo l ep thr) eps another t
      = snapToAnother t eps another := by
  unfold Gen.snap_trace_to_another snapToAnother
  have hsel : (eps.filter fun ep => decide (dist ep another < t) && !onLine ep another) = eps.filter fun ep => near t ep another && !onLine ep another :=
    List.filter_congr fun ep hep => by rw [hdist ep hep]
  simp only [List.map_id', hsel, List.decide_length_eq_zero]
  rw [Loop.fold (f := Gen.snap_trace_to_another_loop1 _ _ _ _ _ _) (fun _ => rfl) fun _ _ _ => rfl]

/-- **Refinement**: the regenerated `snap_others_to_trace` is the model's second stage for one trace. Laws of the distance
parameters: comparing them with the threshold is comparing the exact squared distances with the squared threshold. -/
theorem generated_snap_others (ord : Ord) (t : Rat) (areas : List Polygon) (orig simp : List Polyline) (idx : Nat) (trace : Polyline)
    (dist : Pt → Polyline → Rat) (bdist : Pt → Polygon → Rat)
    (hdist : ∀ ep l, decide (dist ep l < t) = near t ep l)
    (hbd : ∀ ep (pg : Polygon), decide (bdist ep pg < t) = decide (pg.boundaryDist2 ep < t * t))
    (hlen : simp.length = orig.length) :
    Gen.snap_others_to_trace boundsE (indexE ord orig) ends bdist dist (fun ep l => onLine ep l) (fun l ep thr => Snap.insertGeo l ep thr) idx trace t simp (some areas)
      = snapOthersToTrace ord t (t * 20) areas orig simp idx trace := by
  unfold Gen.snap_others_to_trace snapOthersToTrace
  rw [resolve_eq ord t orig simp idx trace hlen]
  cases candidateIdxs ord (t * 20) orig idx trace with
  | error e => rfl
  | ok ci =>
    -- areas are given (`some`), so the ends near a boundary are filtered out; the two regenerated callees by their closed forms
    simp only [Except.map, List.elem_eq_contains, List.decide_length_eq_zero, Option.isNone_some, Bool.not_false, if_true, Option.getD_some,
      List.map_id', boundary_filter_eq, hbd, snap_to_another_eq dist t _ trace fun ep _ => hdist ep trace]
    rfl

/-! ### the whole pass -/

/-- **Refinement of a whole snapping pass**: the regenerated `snap_traces` -- both stages over the whole list, each trace's
candidates taken through the index built once from the ORIGINAL traces, stage two reading the simply-snapped geometries, the first
exception propagating -- is the model's `snapPass` (for either candidate order of the index) -/
theorem generated_snap_traces (ord : Ord) (t : Rat) (areas : List Polygon) (traces : List Polyline)
    (dist : Pt → Polyline → Rat) (bdist : Pt → Polygon → Rat)
    (hdist : ∀ ep l, decide (dist ep l < t) = near t ep l)
    (hbd : ∀ ep (pg : Polygon), decide (bdist ep pg < t) = decide (pg.boundaryDist2 ep < t * t)) :
    Gen.snap_traces boundsE (indexE ord) simpleSnapG ends bdist dist (fun ep l => onLine ep l) (fun l ep thr => Snap.insertGeo l ep thr) traces t (some areas)
      = snapPass ord t (t * 20) areas traces := by
  unfold Gen.snap_traces snapPass stage1 stage2
  simp only [List.decide_length_eq_zero, generated_snap_trace_simple]
  split
  · rfl
  · generalize hs1 : List.mapM (m := Except String) _ traces.zipIdx = firstStage
    cases firstStage with
    | error e => rfl
    | ok s1 =>
      -- the second stage reads a list with one row per trace, as `generated_snap_others` asks
      have hlen : (s1.map (·.1)).length = traces.length := by rw [List.length_map, List.length_of_mapM_ok hs1, List.length_zipIdx]
      simp only [Except.map, List.unzip_eq_map, generated_snap_others ord t areas traces _ _ _ dist bdist hdist hbd hlen]
      generalize List.mapM (m := Except String) _ (s1.map (·.1)).zipIdx = secondStage
      cases secondStage with
      | error e => rfl
      | ok s2 => simp only [List.any_append, List.any_map, Function.comp_def, id]

/-! ### the distance laws are satisfiable: threshold-clamped distances -/

/-- a distance whose comparison with `t > 0` is the exact squared comparison -/
def distC (t : Rat) (ep : Pt) (l : Polyline) : Rat := if near t ep l then 0 else t
def bdistC (t : Rat) (ep : Pt) (pg : Polygon) : Rat := if pg.boundaryDist2 ep < t * t then 0 else t

theorem distC_law (t : Rat) (ht : 0 < t) (ep : Pt) (l : Polyline) : decide (distC t ep l < t) = near t ep l := by
  unfold distC
  cases h : near t ep l
  · simp [Rat.lt_irrefl]
  · simp [ht]

theorem bdistC_law (t : Rat) (ht : 0 < t) (ep : Pt) (pg : Polygon) : decide (bdistC t ep pg < t) = decide (pg.boundaryDist2 ep < t * t) := by
  unfold bdistC
  by_cases h : pg.boundaryDist2 ep < t * t
  · simp [h, ht]
  · simp [h, Rat.lt_irrefl]

end SnapStageL
