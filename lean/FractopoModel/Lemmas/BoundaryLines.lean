import FractopoModel.Generated.BoundaryLines
/-!
# The regenerated loops of `determine_boundary_intersecting_lines` in closed form

`nearB` and `cutsB` are the words in which `C08_generated_boundary_lines` states the result; `C16_boundary_lines_transparent` rests on the same closed form.
-/
namespace C08
variable {A L P : Type}

/-- candidate `c` of area `a` is strictly within the threshold of the area's boundary -/
def nearB (line_at : Nat → L) (ldist : L → A → Rat) (t : Rat) (a : A) (c : Nat) : Bool := decide (ldist (line_at c) a < t)

/-- the line cuts through: both ends are within the threshold of the boundary, or no end is inside the area while the line touches it -/
def cutsB (line_at : Nat → L) (ends_of : L → List P) (pdist : P → A → Rat) (within : P → A → Bool) (touches : L → A → Bool) (t : Rat) (a : A) (c : Nat) : Bool :=
  ((ends_of (line_at c)).all fun e => decide (pdist e a < t)) || (!((ends_of (line_at c)).any fun e => within e a) && touches (line_at c) a)

theorem boundary_loop2_eq (areas : List A) (wq : A → List Nat) (line_at : Nat → L) (ldist : L → A → Rat) (ends_of : L → List P) (pdist : P → A → Rat)
    (within : P → A → Bool) (touches : L → A → Bool) (iv : List Nat) (t : Rat) (a : A) (all cs i k : List Nat) :
    Gen.boundary_intersecting_lines_loop2 areas wq line_at ldist ends_of pdist within touches iv t a all cs i k =
      (i ++ cs.filter (nearB line_at ldist t a), k ++ cs.filter fun c => nearB line_at ldist t a c && cutsB line_at ends_of pdist within touches t a c) := by
  induction cs generalizing i k with
  | nil => simp [Gen.boundary_intersecting_lines_loop2]
  | cons c rest ih =>
    simp only [Gen.boundary_intersecting_lines_loop2, ih, List.all_map, List.any_map, Function.comp_def, id, List.filter_cons, nearB, cutsB]
    -- the body appends `c` to the first list when it is near, and then to the second when it also cuts: the three tests one by one
    by_cases hn : ldist (line_at c) a < t
    · cases hall : (ends_of (line_at c)).all fun e => decide (pdist e a < t) <;>
        cases hcut : (!(ends_of (line_at c)).any fun e => within e a) && touches (line_at c) a <;> simp [*]
    · simp [hn]

theorem boundary_loop1_eq (areas : List A) (wq : A → List Nat) (line_at : Nat → L) (ldist : L → A → Rat) (ends_of : L → List P) (pdist : P → A → Rat)
    (within : P → A → Bool) (touches : L → A → Bool) (iv : List Nat) (t : Rat) (l : List A) (i k : List Nat) :
    Gen.boundary_intersecting_lines_loop1 areas wq line_at ldist ends_of pdist within touches iv t l i k =
      (i ++ l.flatMap (fun a => (wq a).filter (nearB line_at ldist t a)),
       k ++ l.flatMap (fun a => (wq a).filter fun c => nearB line_at ldist t a c && cutsB line_at ends_of pdist within touches t a c)) := by
  induction l generalizing i k with
  | nil => simp [Gen.boundary_intersecting_lines_loop1]
  | cons a rest ih =>
    rw [Gen.boundary_intersecting_lines_loop1]
    by_cases he : (wq a).length = 0
    · have : wq a = [] := List.eq_nil_of_length_eq_zero he
      simp [this, ih]
    · simp only [he, decide_false, Bool.false_eq_true, if_false, boundary_loop2_eq, ih]
      simp [List.append_assoc]

theorem generated_boundary_lines (areas : List A) (wq : A → List Nat) (line_at : Nat → L) (ldist : L → A → Rat) (ends_of : L → List P)
    (pdist : P → A → Rat) (within : P → A → Bool) (touches : L → A → Bool) (iv : List Nat) (t : Rat) :
    Gen.boundary_intersecting_lines areas wq line_at ldist ends_of pdist within touches iv t =
      (iv.map (fun idx => areas.any fun a => (wq a).any fun c => c == idx && nearB line_at ldist t a c),
       iv.map (fun idx => areas.any fun a => (wq a).any fun c => c == idx && (nearB line_at ldist t a c && cutsB line_at ends_of pdist within touches t a c))) := by
  unfold Gen.boundary_intersecting_lines
  simp only [boundary_loop1_eq, List.nil_append, Prod.mk.injEq]
  constructor <;>
  · apply List.map_congr_left
    intro idx _
    rw [Bool.eq_iff_iff]
    simp only [List.elem_eq_contains, List.contains_eq_mem, List.mem_flatMap, List.mem_filter, decide_eq_true_eq, List.any_eq_true,
      Bool.and_eq_true, beq_iff_eq]
    constructor
    · rintro ⟨a, ha, hc, h⟩; exact ⟨a, ha, idx, hc, rfl, h⟩
    · rintro ⟨a, ha, c, hc, rfl, h⟩; exact ⟨a, ha, hc, h⟩

end C08
