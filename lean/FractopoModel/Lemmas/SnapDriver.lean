import FractopoModel.Lemmas.Pipeline
import FractopoModel.Lemmas.SnapLoop
import FractopoModel.Generated.SnapDriver
/-!
Both regenerated copies of the `while any_changes_applied` loop of `branches_and_nodes` (the one inside the orchestration and the
stand-alone `snap_driver`) are `Pipeline.stageFrom`; over the model pass and with the fuel the callers give, that is `SnapL.snapLoop`,
which thereby has what `stageFrom` has for every pass (`snapLoop_bound`).
-/
namespace Pipeline

/-- The two loops differ only at fuel 0, which is not reached: each turn spends one unit of fuel and counts one loop, and the
counter check raises as soon as `loops` exceeds `allowed`. -/
theorem stageFrom_eq (ord : SnapL.Ord) (t margin : Rat) (areas : List Polygon) (allowed fuel loops : Nat) (tr : List Polyline) (ch : Bool)
    (hloops : loops ≤ allowed) (hfuel : allowed < fuel + loops) :
    stageFrom (SnapL.snapPass ord t margin areas) allowed fuel loops tr ch = SnapL.snapLoopFrom ord t margin areas allowed fuel loops tr ch := by
  fun_induction SnapL.snapLoopFrom ord t margin areas allowed fuel loops tr ch with
  | case1 => omega
  | case2 _ _ _ _ hc => rw [stageFrom, if_pos hc]
  | case3 _ _ _ _ hc e hp => rw [stageFrom, if_neg hc, hp]
  | case4 _ _ _ _ hc _ _ hp hgt => rw [stageFrom, if_neg hc, hp]; exact if_pos hgt
  | case5 _ _ _ _ hc _ _ hp hgt ih => rw [stageFrom, if_neg hc, hp]; exact (if_neg hgt).trans (ih (by omega) (by omega))

/-- with the fuel the caller passes (`allowed + 2`) the abstract stage over the model pass is the model's snapping loop -/
theorem stage_eq_snapLoop (ord : SnapL.Ord) (t margin : Rat) (areas : List Polygon) (allowed : Nat) (traces : List Polyline) :
    stage (SnapL.snapPass ord t margin areas) allowed (allowed + 2) traces = SnapL.snapLoop ord t margin areas allowed traces := by
  unfold stage SnapL.snapLoop
  cases SnapL.snapPass ord t margin areas traces with
  | error e => rfl
  | ok r => exact stageFrom_eq ord t margin areas allowed _ 0 r.1 r.2 (by omega) (by omega)

theorem snapLoop_bound {ord : SnapL.Ord} {t margin : Rat} {areas : List Polygon} {allowed : Nat} {traces out : List Polyline} {n : Nat}
    (h : SnapL.snapLoop ord t margin areas allowed traces = .ok (out, n)) : n ≤ allowed := by
  rw [← stage_eq_snapLoop, stage] at h
  split at h
  · cases h
  · exact stageFrom_bound (Nat.zero_le _) h

end Pipeline

namespace SnapDriver
open Pipeline

theorem driver_while_eq {T : Type} (pass_ : T → T × Bool) (allowed fuel : Nat) (tr : T) (ch : Bool) (loops : Nat) :
    Gen.snap_driver_while1 pass_ allowed fuel tr ch loops = asLoop (stageFrom (fun tr => .ok (pass_ tr)) allowed fuel loops tr ch) := by
  refine while_stage (fun _ _ _ => rfl) (fun k tr ch n => ?_) fuel tr ch loops
  cases ch <;> rfl

/-- the stand-alone driver with the fuel its caller gives, over a pass that does not raise (`C06_generated_driver`) -/
theorem generated_driver (ord : SnapL.Ord) (t margin : Rat) (areas : List Polygon) (allowed : Nat) (pass_ : List Polyline → List Polyline × Bool)
    (hpass : ∀ tr, SnapL.snapPass ord t margin areas tr = .ok (pass_ tr)) (traces : List Polyline) :
    Gen.snap_driver pass_ traces allowed (allowed + 2) = SnapL.snapLoop ord t margin areas allowed traces := by
  have hfun : (fun tr => .ok (pass_ tr)) = SnapL.snapPass ord t margin areas := funext fun tr => (hpass tr).symm
  rw [← stage_eq_snapLoop, ← hfun]
  unfold Gen.snap_driver stage
  simp only [driver_while_eq]
  cases stageFrom (fun tr => .ok (pass_ tr)) allowed (allowed + 2) 0 (pass_ traces).1 (pass_ traces).2 <;> rfl

end SnapDriver
