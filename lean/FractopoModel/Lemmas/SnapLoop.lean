import FractopoModel.Model.SnapLoop
import FractopoModel.Lemmas.Lists
/-!
# Lemmas of the snapping-pass model (`Model/SnapLoop.lean`)

A quiet map is a fixed point of the pass and of the loop; an end moves only onto a vertex within the threshold; the second stage adds to a trace
nothing but ends that were within the threshold of it.
-/
instance : LawfulBEq Pt where
  eq_of_beq {a b} h := by
    cases a; cases b
    have h' : (_ == _ && _ == _) = true := h
    simp only [Bool.and_eq_true, beq_iff_eq] at h'
    simp [h'.1, h'.2]
  rfl {a} := by
    cases a
    show (_ == _ && _ == _) = true
    simp

namespace SnapL

/-- either order of the index returns the same hits -/
theorem mem_ap {ord : Ord} {l : List Nat} {i : Nat} : i ∈ ord.ap l ↔ i ∈ l := by
  cases ord
  · exact .rfl
  · exact List.mem_reverse

/-! ### a quiet map is a fixed point -/

/-- the replacement dictionary stays empty when no (candidate, end) pair has a target -/
theorem simpleFold_nil (t : Rat) (trace : Polyline) (cs : List Polyline)
    (h : ∀ c ∈ cs, ∀ ep ∈ ends trace, simpleTarget t trace c ep = none) :
    simpleFold t trace cs [] = .ok [] := by
  induction cs with
  | nil => rfl
  | cons c cs ih =>
    have hc := h c (by simp)
    have h1 : simpleCand t trace [] c = .ok [] := by
      simp [simpleCand, simpleStep, hc (first trace) (by simp [ends]), hc (last trace) (by simp [ends])]
    simp only [simpleFold, h1]
    exact ih fun c' hc' => h c' (by simp [hc'])

theorem simpleSnap_quiet (t : Rat) (trace : Polyline) (cands : List Polyline)
    (h : ∀ c ∈ cands, ∀ ep ∈ ends trace, simpleTarget t trace c ep = none) :
    simpleSnap t trace cands = .ok (trace, false) := by
  unfold simpleSnap simpleDict
  rw [simpleFold_nil t trace _ fun c hc => h c (List.mem_filter.mp hc).1]
  rfl

theorem snapToAnother_quiet (t : Rat) (eps : List Pt) (another : Polyline)
    (h : ∀ ep ∈ eps, (near t ep another && !onLine ep another) = false) :
    snapToAnother t eps another = (another, false) := by
  unfold snapToAnother
  rw [List.filter_eq_nil_iff.mpr fun ep hep => by simp [h ep hep]]
  rfl

/-- what `quietPair` says about one end: neither stage's decision fires -/
theorem quietPair_end {t : Rat} {l c : Polyline} (h : quietPair t l c = true) {ep : Pt} (hep : ep ∈ ends l) :
    simpleTarget t l c ep = none ∧ (near t ep c && !onLine ep c) = false := by
  have := List.all_eq_true.mp h ep hep
  simp only [Bool.and_eq_true, Option.isNone_iff_eq_none, Bool.not_eq_true'] at this
  exact this

/-- on a quiet map neither stage changes row `i`: every candidate `traces[j]` is another trace, and no end of `l` or of the candidate asks for anything -/
theorem quiet_row {ord : Ord} {t margin : Rat} {traces : List Polyline} (h : quietMap ord t margin traces = true) (areas : List Polygon)
    {l : Polyline} {i : Nat} (hli : (l, i) ∈ traces.zipIdx) :
    snapTraceSimple ord t margin traces i l = .ok (l, false) ∧ snapOthersToTrace ord t margin areas traces traces i l = .ok (l, false) := by
  have := List.all_eq_true.mp h (l, i) hli
  simp only at this
  unfold snapTraceSimple snapOthersToTrace
  split at this
  · cases this
  · rename_i ci hci
    have hq : ∀ j ∈ ci, traces.getD j [] ≠ l ∧ quietPair t l (traces.getD j []) = true ∧ quietPair t (traces.getD j []) l = true :=
      fun j hj => by simpa [and_assoc] using List.all_eq_true.mp this j hj
    have hnc : (ci.map fun i => traces.getD i []).contains l = false := by
      rw [List.contains_eq_mem, decide_eq_false_iff_not, List.mem_map]
      exact fun ⟨j, hj, hjl⟩ => (hq j hj).1 hjl
    simp only [hnc, Bool.false_eq_true, if_false]
    split
    · exact ⟨rfl, rfl⟩
    · refine ⟨simpleSnap_quiet _ _ _ fun c hc ep hep => ?_, congrArg _ (snapToAnother_quiet _ _ _ fun ep hep => ?_)⟩
      · obtain ⟨j, hj, rfl⟩ := List.mem_map.mp hc
        exact (quietPair_end (hq j hj).2.1 hep).1
      · obtain ⟨c, hc, hepc⟩ := List.mem_flatMap.mp (List.mem_filter.mp hep).1
        obtain ⟨j, hj, rfl⟩ := List.mem_map.mp hc
        exact (quietPair_end (hq j hj).2.2 hepc).2

/-- **a quiet map is a fixed point of the snapping pass**, and the pass reports "nothing changed" -/
theorem snapPass_quiet (ord : Ord) (t margin : Rat) (areas : List Polygon) (traces : List Polyline)
    (h : quietMap ord t margin traces = true) : snapPass ord t margin areas traces = .ok (traces, false) := by
  unfold snapPass
  split
  · rename_i he
    rw [List.isEmpty_iff.mp he]
  · have hfst : (traces.zipIdx.map fun (li : Polyline × Nat) => ((li.1, false) : Polyline × Bool)).map (·.1) = traces := by
      rw [List.map_map]; exact List.zipIdx_map_fst 0 traces
    have h1 : stage1 ord t margin traces = .ok _ := List.mapM_ok_of_forall fun _ hli => (quiet_row h areas hli).1
    have h2 : stage2 ord t margin areas traces traces = .ok _ := List.mapM_ok_of_forall fun _ hli => (quiet_row h areas hli).2
    simp [h1, hfst, h2]

theorem snapLoop_quiet (ord : Ord) (t margin : Rat) (areas : List Polygon) (allowed : Nat) (traces : List Polyline)
    (h : quietMap ord t margin traces = true) : snapLoop ord t margin areas allowed traces = .ok (traces, 0) := by
  unfold snapLoop
  rw [snapPass_quiet ord t margin areas traces h]
  rfl

/-! ### what the two stages can change -/

theorem simpleTarget_close {t : Rat} {trace c : Polyline} {ep v : Pt} (h : simpleTarget t trace c ep = some v) :
    Pt.dist2 v ep < t * t := by
  simp only [simpleTarget, Option.ite_none_left_eq_some] at h
  obtain ⟨-, -, h⟩ := h
  split at h
  · cases h
  · simp only [Option.ite_none_left_eq_some, Option.some.injEq] at h
    obtain ⟨hclose, -, rfl⟩ := h
    simpa using hclose

theorem snapToAnother_changed {t : Rat} {eps : List Pt} {another : Polyline} (h : (snapToAnother t eps another).2 = true) :
    ∃ ep ∈ eps, near t ep another = true ∧ onLine ep another = false := by
  unfold snapToAnother at h
  simp only [] at h
  split at h
  · cases h
  · rename_i hne
    obtain ⟨ep, hep⟩ := List.exists_mem_of_ne_nil _ (mt List.isEmpty_iff.mpr hne)
    have := List.mem_filter.mp hep
    exact ⟨ep, this.1, by simpa using this.2⟩

/-- whatever the decision, applying it adds the point and nothing else -/
theorem apply_vertices {P : Type} {vs : List P} {p : P} {act : Snap.Action} {v : P} (hv : v ∈ Snap.apply vs p act) : v ∈ vs ∨ v = p := by
  cases act with
  | insertAfter j =>
    simp only [Snap.apply, List.mem_append, List.mem_cons, List.not_mem_nil, or_false] at hv
    rcases hv with (h | h) | h
    · exact .inl (List.mem_of_mem_take h)
    · exact .inr h
    · exact .inl (List.mem_of_mem_drop h)
  | replace k => exact List.mem_or_eq_of_mem_set hv

theorem insertGeo_vertices (l : Polyline) (p : Pt) (t : Rat) : ∀ v ∈ Snap.insertGeo l p t, v ∈ l ∨ v = p := by
  intro v hv
  unfold Snap.insertGeo at hv
  split at hv
  · exact .inl hv
  · exact apply_vertices hv

theorem foldl_insert_vertices (t : Rat) (sel : List Pt) (l : Polyline) :
    ∀ v ∈ sel.foldl (fun l ep => Snap.insertGeo l ep t) l, v ∈ l ∨ v ∈ sel := by
  induction sel generalizing l with
  | nil => intro v hv; exact Or.inl hv
  | cons e rest ih =>
    intro v hv
    rcases ih _ v hv with h | h
    · rcases insertGeo_vertices l e t v h with h' | h'
      · exact Or.inl h'
      · exact Or.inr (by simp [h'])
    · exact Or.inr (by simp [h])

end SnapL
