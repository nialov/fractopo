import FractopoModel.Basic.PyPrelude
/-!
# The shapes of a translated `for` loop

`py2lean` turns every `for` loop into a structurally recursive `<f>_loop<k>` over the list. Most of these definitions have one of a few shapes, and the
closed form depends on the shape only. Each lemma here is about ANY function satisfying the two recursion equations of a shape; a generated loop
satisfies them by `rfl` (or after rewriting the closed form of an inner loop), so its closed form is `by apply Loop.scan <;> intros <;> rfl` rather than
an induction of its own. `grows` is of another kind: it says what a loop adds, for a round given as a relation. Loops of no shape here (two accumulators,
counters, a `break`, a raising body) keep their induction where they stand.
-/
namespace Loop
variable {α β ρ σ : Type}

/-- `return` / `raise` at the first element that passes a test, nothing else -/
theorem scan {f : List α → Loop ρ σ} {p : α → Bool} {r : ρ} {s : σ} (nil : f [] = .done s)
    (cons : ∀ a l, f (a :: l) = if p a then .ret r else f l) (l : List α) : f l = if l.any p then .ret r else .done s := by
  induction l with
  | nil => exact nil
  | cons a l ih => rw [cons, ih, List.any_cons]; cases p a <;> rfl

/-- the accumulator only grows -/
theorem collect {f : List α → List β → List β} {g : α → List β} (nil : ∀ acc, f [] acc = acc)
    (cons : ∀ a l acc, f (a :: l) acc = f l (acc ++ g a)) (l : List α) (acc : List β) : f l acc = acc ++ l.flatMap g := by
  induction l generalizing acc with
  | nil => simp [nil]
  | cons a l ih => simp [cons, ih]

/-- both: leave at the first element that passes the test, collect until then -/
theorem scanCollect {f : List α → List β → Loop ρ (List β)} {p : α → Bool} {r : ρ} {g : α → List β} (nil : ∀ acc, f [] acc = .done acc)
    (cons : ∀ a l acc, f (a :: l) acc = if p a then .ret r else f l (acc ++ g a)) (l : List α) (acc : List β) :
    f l acc = if l.any p then .ret r else .done (acc ++ l.flatMap g) := by
  induction l generalizing acc with
  | nil => simp [nil]
  | cons a l ih => rw [cons, ih, List.any_cons]; cases p a <;> simp

/-- `collect` of (a function `g` of) the elements that pass a test -/
theorem filter {f : List α → List β → List β} {p : α → Bool} {g : α → β} (nil : ∀ acc, f [] acc = acc)
    (cons : ∀ a l acc, f (a :: l) acc = f l (if p a then acc ++ [g a] else acc)) (l : List α) (acc : List β) : f l acc = acc ++ (l.filter p).map g := by
  induction l generalizing acc with
  | nil => simp [nil]
  | cons a l ih => rw [cons, ih, List.filter_cons]; split <;> simp

/-- a state threaded through the elements -/
theorem fold {f : List α → σ → σ} {step : σ → α → σ} (nil : ∀ s, f [] s = s) (cons : ∀ a l s, f (a :: l) s = f l (step s a))
    (l : List α) (s : σ) : f l s = l.foldl step s := by
  induction l generalizing s with
  | nil => exact nil s
  | cons a l ih => rw [cons, ih, List.foldl_cons]

/-- a state that only grows, as seen through a property `M` of it (`M` = "contains `k`" for the set-building loops): every round adds to `M` exactly what `Q` says of its
element. The round is given as a relation (`s'` is what the body leaves of `s`), so a body with tests in it needs no step function written out. -/
theorem grows {M : σ → Prop} {Q : α → Prop} {f : List α → σ → σ} (nil : ∀ s, f [] s = s) {l : List α}
    (cons : ∀ a ∈ l, ∀ r s, ∃ s', f (a :: r) s = f r s' ∧ (M s' ↔ M s ∨ Q a)) (s : σ) : M (f l s) ↔ M s ∨ ∃ x ∈ l, Q x := by
  induction l generalizing s with
  | nil => simp [nil]
  | cons a l ih =>
    obtain ⟨s', e, h⟩ := cons a List.mem_cons_self l s
    rw [e, ih (fun x hx => cons x (List.mem_cons_of_mem a hx)), h, or_assoc]
    simp only [List.mem_cons, or_and_right, exists_or, exists_eq_left]

/-- `return h b` for the first element that yields a witness `b` -/
theorem first {γ : Type} {f : List α → Loop ρ σ} {g : α → Option γ} {h : γ → ρ} {s : σ} (nil : f [] = .done s)
    (cons : ∀ a l, f (a :: l) = (g a).elim (f l) fun b => .ret (h b)) (l : List α) :
    f l = (l.findSome? g).elim (.done s) fun b => .ret (h b) := by
  induction l with
  | nil => exact nil
  | cons a l ih => rw [cons, List.findSome?_cons]; cases g a <;> simp only [ih, Option.elim]

/-- a body shape: two nested tests with the same `else` (Python's `if a: if b: return x`, then the rest `y`) -/
theorem ite_ite_and {γ : Type} (a b : Bool) (x y : γ) : (if a then if b then x else y else y) = if a && b then x else y := by
  cases a <;> cases b <;> rfl

end Loop
