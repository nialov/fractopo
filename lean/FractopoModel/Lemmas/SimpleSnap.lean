import FractopoModel.Model.SnapLoop
import FractopoModel.Lemmas.SnapLoop
import FractopoModel.Lemmas.Prelude
import FractopoModel.Generated.SimpleSnap
/-!
# The regenerated `simple_snap` refines the hand-written first snapping stage `SnapL.simpleSnap`
-/
namespace SimpleSnapL
open SnapL

/-! ### the exact parameters -/

def ldistE (t : Rat) (ep : Pt) (c : Polyline) : Rat := (ptLineDist2 ep c).getD (t * t)
def interE (l m : Polyline) : List Pt := (interPts l m).getD []

theorem near_eq (t : Rat) (ep : Pt) (c : Polyline) : decide (ldistE t ep c < t * t) = near t ep c := by
  unfold ldistE near
  cases ptLineDist2 ep c with
  | none => simp [Rat.lt_irrefl]
  | some d => rfl

/-- `sorted(zip(points, distances), key=distance)[0][0]` is the first nearest point -/
theorem sorted_zip_head {α : Type} (f : α → Rat) (b : α) (l : List α) (d : α × Rat) :
    ((pySortedBy (fun vals => vals.2) (List.zip (b :: l) ((b :: l).map f))).headD d).1 = l.foldl (fun best x => if f x < f best then x else best) b := by
  rw [List.zip_eq_zipWith, List.zipWith_map_right, List.zipWith_self, pySortedBy_map, List.headD_eq_head?_getD, List.head?_map, pySortedBy_head?]
  rfl

/-- one end against one candidate with at least one interior vertex: the generated loop body is `simpleStep` -/
theorem loop2_cons (t : Rat) (trace c : Polyline) (cands : List Polyline) (eps0 : List Pt) (hc : interior c ≠ []) (ep : Pt) (rest : List Pt) (d : List (Pt × Pt)) :
    Gen.simple_snap_loop2 ends (ldistE t) interior (fun a b => a == b) (fun a b => Pt.dist2 a b) interE id id trace cands (t * t) (interior c) c eps0 (ep :: rest) d
      = match simpleStep t trace c d ep with
        | .error e => .ret (.error e)
        | .ok d' => Gen.simple_snap_loop2 ends (ldistE t) interior (fun a b => a == b) (fun a b => Pt.dist2 a b) interE id id trace cands (t * t) (interior c) c eps0 rest d' := by
  rw [Gen.simple_snap_loop2, simpleStep, simpleTarget, argminPt.eq_def]
  generalize interior c = cps at hc ⊢
  obtain ⟨v0, vs, rfl⟩ := List.exists_cons_of_ne_nil hc
  -- the code takes the minimum of the distances and, separately, the head of the points sorted by distance; both are the first nearest vertex, the
  -- fold of `argminPt` (`listMin_map`, `sorted_zip_head`); after that both sides make the same four tests
  simp only [List.any_map, List.contains_eq_any_beq, Function.comp_def, id, listMin_map, sorted_zip_head, interE, alistHas]
  cases (v0 :: vs).any fun x => ep == x
  · cases decide (Pt.dist2 (vs.foldl (fun best x => if Pt.dist2 x ep < Pt.dist2 best ep then x else best) v0) ep < t * t)
    · rfl
    · cases ((interPts trace c).getD []).any fun ip => decide (Pt.dist2 ip ep < t * t)
      · cases hd : d.any fun x => x.1 == ep
        · rw [alistSet_fresh hd]; rfl
        · rfl
      · rfl
  · rfl

theorem loop2_ends (t : Rat) (trace c : Polyline) (cands : List Polyline) (eps0 : List Pt) (hc : interior c ≠ []) (d : List (Pt × Pt)) :
    Gen.simple_snap_loop2 ends (ldistE t) interior (fun a b => a == b) (fun a b => Pt.dist2 a b) interE id id trace cands (t * t) (interior c) c eps0 (ends trace) d
      = match simpleCand t trace d c with | .error e => .ret (.error e) | .ok d' => .done d' := by
  rw [ends, loop2_cons t trace c cands eps0 hc, simpleCand]
  cases simpleStep t trace c d (first trace) with
  | error e => rfl
  | ok d1 =>
    dsimp only
    rw [loop2_cons t trace c cands eps0 hc]
    cases simpleStep t trace c d1 (last trace) <;> rfl

theorem loop1_eq (t : Rat) (trace : Polyline) (cands tsts : List Polyline) (l : List Polyline) (d : List (Pt × Pt)) :
    Gen.simple_snap_loop1 ends (ldistE t) interior (fun a b => a == b) (fun a b => Pt.dist2 a b) interE id id trace cands (t * t) (ends trace) tsts l d
      = match simpleFold t trace l d with | .error e => .ret (.error e) | .ok d' => .done d' := by
  induction l generalizing d with
  | nil => rfl
  | cons c cs ih =>
    rw [Gen.simple_snap_loop1, simpleFold]
    by_cases hc : interior c = []
    · -- no interior vertex: the generated loop skips the candidate, the model finds no target
      have hC : simpleCand t trace d c = .ok d := by simp [simpleCand, simpleStep, simpleTarget, hc]
      rw [hc, hC]
      exact ih d
    · rw [if_neg fun h => hc (List.eq_nil_of_length_eq_zero (of_decide_eq_true h)), loop2_ends t trace c cands (ends trace) hc]
      cases simpleCand t trace d c with
      | error e => rfl
      | ok d1 => exact ih d1

theorem applyDict_eq (d : List (Pt × Pt)) (trace : Polyline) :
    List.map (fun point => if (!(alistHas d point)) then point else ((alistGet? d point).getD point)) trace = applyDict d trace := by
  refine List.map_congr_left fun p _ => ?_
  rw [alistHas_eq_isSome, alistGet?]
  cases d.find? (fun q => q.1 == p) <;> rfl

/-- **Refinement**: the regenerated `simple_snap`, with exact squared distances for the distance parameters, IS the model's first
snapping stage for one trace -- for every trace, candidate list and threshold, including the `ValueError` -/
theorem generated_simple_snap (t : Rat) (trace : Polyline) (cands : List Polyline) :
    Gen.simple_snap ends (ldistE t) interior (fun a b => a == b) (fun a b => Pt.dist2 a b) interE id id trace cands (t * t) = simpleSnap t trace cands := by
  unfold Gen.simple_snap simpleSnap simpleDict
  simp only [List.map_id', List.any_map, Function.comp_def, id, near_eq]
  rw [loop1_eq]
  cases simpleFold t trace (List.filter (fun c => (ends trace).any fun ep => near t ep c) cands) [] with
  | error e => rfl
  | ok d =>
    simp only [applyDict_eq]
    cases d <;> rfl

end SimpleSnapL
