import FractopoModel.Generated.BranchesAndNodes
/-!
# Normal form of the regenerated `branches_and_nodes` orchestration

Everything after the preparation of the trace list (duplicate filter, LineString filter, crop unless already clipped) is one
function of that list: snapping stage, trace length filter, noding with its type dispatch, branch length filter, node table,
branch labels.  `already_clipped` influences nothing else.

Nothing here knows the snapping model: the repeat-until-stable loop is `stageFrom` over an arbitrary pass, and `while_stage` identifies
any translated copy of the loop with it.  `Lemmas/SnapDriver.lean` puts the model's pass in.
-/
namespace Pipeline
variable {G A Pg U N T X : Type}

/-- the repeat-until-stable loop over an abstract, possibly raising pass: `SnapL.snapLoopFrom`, except that running out of fuel is an
error, as it is in the translated loops (`stageFrom_eq` in `Lemmas/SnapDriver.lean`: with the callers' fuel that does not happen) -/
def stageFrom (pass : T → Except String (T × Bool)) (allowed : Nat) : Nat → Nat → T → Bool → Except String (T × Nat)
  | 0, _, _, _ => .error "FuelExhausted"
  | fuel + 1, loops, traces, changed =>
    if !changed then .ok (traces, loops)
    else
      match pass traces with
      | .error e => .error e
      | .ok (tr, ch) =>
        if loops + 1 > allowed then .error "RecursionError"
        else stageFrom pass allowed fuel (loops + 1) tr ch

/-- how a translated loop hands on the result of `stageFrom`: an exception leaves the enclosing function (whose result type `X` is all
that the copies of the loop differ in), a final state leaves the loop -/
def asLoop : Except String (T × Nat) → Loop (Except String X) (T × Bool × Nat)
  | .error e => .ret (.error e)
  | .ok (tr, n) => .done (tr, false, n)

/-- any function with the recursion equations of the translated `while any_changes_applied:` loop is `stageFrom`, whatever
the fuel (the loop inside `branches_and_nodes` and the stand-alone `snap_driver` both have them by unfolding) -/
theorem while_stage {f : Nat → T → Bool → Nat → Loop (Except String X) (T × Bool × Nat)} {pass : T → Except String (T × Bool)} {allowed : Nat}
    (zero : ∀ tr ch n, f 0 tr ch n = .ret (.error "FuelExhausted"))
    (succ : ∀ k tr ch n, f (k + 1) tr ch n =
      if ch then
        match pass tr with
        | .error e => .ret (.error e)
        | .ok (tr', ch') => if decide (n + 1 > allowed) then .ret (.error "RecursionError") else f k tr' ch' (n + 1)
      else .done (tr, ch, n))
    (fuel : Nat) (tr : T) (ch : Bool) (n : Nat) :
    f fuel tr ch n = asLoop (stageFrom pass allowed fuel n tr ch) := by
  induction fuel generalizing tr ch n with
  | zero => rw [zero]; rfl
  | succ k ih =>
    rw [succ, stageFrom]
    cases ch with
    | false => rfl
    | true =>
      cases pass tr with
      | error e => rfl
      | ok r =>
        by_cases hl : n + 1 > allowed
        · simp [hl, asLoop]
        · simp [hl, ih]

/-- whatever the pass and the fuel, a result carries a count the counter check has let through -/
theorem stageFrom_bound {pass : T → Except String (T × Bool)} {allowed fuel loops n : Nat} {tr out : T} {ch : Bool} (hl : loops ≤ allowed)
    (h : stageFrom pass allowed fuel loops tr ch = .ok (out, n)) : n ≤ allowed := by
  fun_induction stageFrom pass allowed fuel loops tr ch with
  | case1 => cases h
  | case2 => cases h; exact hl
  | case3 => cases h
  | case4 => cases h
  | case5 _ _ _ _ _ _ _ _ hgt ih => exact ih (by omega) h

/-- first pass, then the loop -/
def stage (pass : T → Except String (T × Bool)) (allowed fuel : Nat) (traces : T) : Except String (T × Nat) :=
  match pass traces with
  | .error e => .error e
  | .ok (tr, ch) => stageFrom pass allowed fuel 0 tr ch

/-- what happens to the snapped traces: length filter, noding, type dispatch, length filter, node table, labels -/
def finish (len : G → Rat) (union_all : List G → U) (u_is_multi u_is_line : U → Bool) (u_parts : U → List G)
    (node_table : List G → List A → Rat → List N × List String) (branch_labels : List G → List N → List String → Rat → List String)
    (areas : List A) (t : Rat) (snapped : List G) : Except String (List (G × String) × List (N × String)) :=
  let kept := snapped.filter fun tr => decide (len tr > t * (201 / 100))
  let u := union_all kept
  if u_is_multi u || u_is_line u then
    let branches := (u_parts u).filter fun b => decide (len b > t * (101 / 100))
    let nt := node_table branches areas t
    .ok (List.zip branches (branch_labels branches nt.1 nt.2 t), List.zip nt.1 nt.2)
  else .error "TypeError"

/-- the prepared trace list: the only place `already_clipped` is read -/
def prepared (dedupe : List G → List G) (is_ls : G → Bool) (crop : List G → List A → List G) (traces : List G) (areas : List A) (clipped : Bool) : List G :=
  if clipped then (dedupe traces).filter is_ls else (crop ((dedupe traces).filter is_ls) areas).filter is_ls

section
variable (dedupe : List G → List G) (polys_of : A → List Pg) (is_ls : G → Bool) (crop : List G → List A → List G)
    (snap_ : List G → Rat → List Pg → Except String (List G × Bool)) (len : G → Rat) (union_all : List G → U) (u_is_multi u_is_line : U → Bool)
    (u_parts : U → List G) (node_table : List G → List A → Rat → List N × List String) (branch_labels : List G → List N → List String → Rat → List String)

theorem while_eq (tg : List G) (areas : List A) (t : Rat) (allowed : Nat) (clipped : Bool) (polys : List Pg) (fuel : Nat) (tl : List G) (ch : Bool) (loops : Nat) :
    Gen.branches_and_nodes_while1 dedupe polys_of is_ls crop snap_ len union_all u_is_multi u_is_line u_parts node_table branch_labels tg areas t allowed clipped polys fuel tl ch loops
      = asLoop (stageFrom (fun x => snap_ x t polys) allowed fuel loops tl ch) := by
  refine while_stage (fun _ _ _ => rfl) (fun k tr ch n => ?_) fuel tl ch loops
  rw [Gen.branches_and_nodes_while1]
  cases ch
  · rfl
  · cases snap_ tr t polys <;> rfl

/-- **Normal form of the regenerated `branches_and_nodes`**: prepare the trace list (the only use of `already_clipped`; the crop
happens BEFORE any snapping), run the snapping stage on it with the flattened polygon list, and `finish` the snapped traces. -/
theorem generated_pipeline (traces : List G) (areas : List A) (t : Rat) (allowed : Nat) (clipped : Bool) (fuel : Nat) :
    Gen.branches_and_nodes dedupe polys_of is_ls crop snap_ len union_all u_is_multi u_is_line u_parts node_table branch_labels traces areas t allowed clipped fuel
      = match stage (fun x => snap_ x t ((areas.map polys_of).flatMap id)) allowed fuel (prepared dedupe is_ls crop traces areas clipped) with
        | .error e => .error e
        | .ok (snapped, _) => finish len union_all u_is_multi u_is_line u_parts node_table branch_labels areas t snapped := by
  unfold Gen.branches_and_nodes stage prepared
  simp only [Bool.not_eq_true', ← Bool.not_eq_true, ite_not]
  generalize (if clipped = true then List.filter is_ls (dedupe traces) else List.filter is_ls (crop (List.filter is_ls (dedupe traces)) areas)) = prep
  cases hp : snap_ prep t ((areas.map polys_of).flatMap id) with
  | error e => rfl
  | ok r =>
    obtain ⟨tl, ch⟩ := r
    simp only []
    rw [while_eq]
    cases stageFrom (fun x => snap_ x t ((areas.map polys_of).flatMap id)) allowed fuel 0 tl ch with
    | error e => rfl
    | ok r2 =>
      obtain ⟨snapped, n⟩ := r2
      simp only [finish, asLoop]
      generalize union_all (snapped.filter fun tr => decide (len tr > t * (201 / 100))) = u
      cases u_is_multi u <;> cases u_is_line u <;> rfl

end
end Pipeline
