import FractopoModel.Lemmas.Pipeline
import FractopoModel.Lemmas.Loops
import FractopoModel.Lemmas.Topology
import FractopoModel.Spec.Classes
import FractopoModel.Generated.BranchIdentity
import FractopoModel.Generated.DegreeToClass
import FractopoModel.Lemmas.NodeTable
import FractopoModel.Lemmas.BranchTable
import FractopoModel.Generated.BranchIdentities
/-!
# C05 — node and branch tables are mutually consistent for every input

`Gen.*` are regenerated from /repo on every run; `Spec.*` is written from the property statement; `Topo.*` is the
hand-written model of node collection / labelling, tied to the code by correspondence stream S05 and, for the two
loops, by the refinement theorems `C05_generated_*` at the end of the file (proofs in `Lemmas/NodeTable.lean`, `Lemmas/BranchTable.lean`).
The theorems about `Topo.*` hold for *every* list of branches (valid or not) over any point type.
-/
namespace C05
open Topo
variable {P : Type} [DecidableEq P]

/-- nodes are pairwise distinct -/
theorem C05_nodes_nodup (bs : List (Branch P)) : (collect bs).Nodup := collect_nodup bs

/-- each branch end coincides with a node, and (nodes being distinct) with exactly one -/
theorem C05_end_has_unique_node (bs : List (Branch P)) (br : Branch P) (h : br ∈ bs) :
    (br.a ∈ collect bs ∧ (collect bs).count br.a = 1) ∧ (br.b ∈ collect bs ∧ (collect bs).count br.b = 1) := by
  have one : ∀ x, (∃ b ∈ bs, x = b.a ∨ x = b.b) → x ∈ collect bs ∧ (collect bs).count x = 1 := by
    intro x hx
    have hx : x ∈ collect bs := (mem_collect bs x).mpr ((mem_ends bs x).mpr hx)
    exact ⟨hx, by rw [(collect_nodup bs).count, if_pos hx]⟩
  exact ⟨one _ ⟨br, h, .inl rfl⟩, one _ ⟨br, h, .inr rfl⟩⟩

/-- each node coincides with at least one branch end -/
theorem C05_node_has_end (bs : List (Branch P)) (n : P) (h : n ∈ collect bs) :
    ∃ br ∈ bs, n = br.a ∨ n = br.b := by
  rwa [mem_collect, mem_ends] at h

/-- the end-count summed over nodes is twice the number of branches -/
theorem C05_handshake (bs : List (Branch P)) :
    ((collect bs).map (mult bs)).sum = 2 * bs.length := by
  rw [← ends_length]
  exact sum_count_of_nodup (ends bs) (collect bs) (collect_nodup bs) (fun x hx => (mem_collect bs x).mpr hx)

/-- the regenerated degree map is the specified one (argument = other ends = degree − 1) -/
theorem C05_degree_map (n : Nat) : Gen.degree_to_class n = Spec.classOfDegree (n + 1) := by
  match n with
  | 0 | 1 | 2 | 3 => rfl
  | _ + 4 => rfl

/-- the regenerated degree map never answers E -/
theorem C05_degree_never_E (n : Nat) : Gen.degree_to_class n ≠ "E" := by
  rw [C05_degree_map]; unfold Spec.classOfDegree; split <;> decide

/-- a node is labelled E exactly when it is within the threshold of the boundary -/
theorem C05_E_iff_boundary (nearB : P → Bool) (bs : List (Branch P)) (p : P) :
    nodeClass nearB Gen.degree_to_class bs p = "E" ↔ nearB p = true := by
  unfold nodeClass
  by_cases h : nearB p = true
  · simp [h]
  · simp [h, C05_degree_never_E]

/-- otherwise its label is the fixed function of the number of branch ends meeting there -/
theorem C05_class_of_degree (nearB : P → Bool) (bs : List (Branch P)) (p : P)
    (hp : p ∈ collect bs) (hb : nearB p = false) :
    nodeClass nearB Gen.degree_to_class bs p = Spec.classOfDegree (mult bs p) := by
  rw [nodeClass, hb, if_neg Bool.false_ne_true, C05_degree_map, Nat.sub_add_cancel (mult_pos_of_mem bs p hp)]

/-- the pure labelling function, for all triples of counts -/
theorem C05_branch_identity_total (i xy e : Nat) :
    Gen.determine_branch_identity i xy e = Spec.pairLabel i xy e := by
  unfold Gen.determine_branch_identity Spec.pairLabel
  -- the code's chain has one test more than the specification; its `else` ("E - E") is dead: counts that sum to 2 and fail the five tests before are
  -- `i = e = 1`
  grind

theorem C05_branch_identity_error (i xy e : Nat) (h : i + xy + e ≠ 2) :
    Gen.determine_branch_identity i xy e = "Error" := by
  rw [C05_branch_identity_total, Spec.pairLabel, if_pos h]

private def b2n (b : Bool) : Nat := if b then 1 else 0

/-- If the nodes within the threshold of a branch's ends are exactly its end nodes
(`crisp`), the label is the unordered pair of the end-node kinds when the ends differ
and `Error` when they coincide. -/
theorem C05_branch_label (close : P → P → Bool) (nodes : List P) (cls : P → String)
    (hcls : ∀ n ∈ nodes, cls n = "I" ∨ cls n = "X" ∨ cls n = "Y" ∨ cls n = "E")
    (hnd : nodes.Nodup) (br : Branch P) (ha : br.a ∈ nodes) (hb : br.b ∈ nodes)
    (crisp : ∀ n ∈ nodes, close n br.a = decide (n = br.a) ∧ close n br.b = decide (n = br.b)) :
    branchLabel Gen.determine_branch_identity close nodes cls br =
      if br.a = br.b then "Error"
      else Spec.pairLabelOfKinds (Spec.kindOf (cls br.a)) (Spec.kindOf (cls br.b)) := by
  have hclose : ∀ n ∈ nodes, (close n br.a || close n br.b) = true ↔ n = br.a ∨ n = br.b := fun n hn => by
    rw [(crisp n hn).1, (crisp n hn).2, Bool.or_eq_true, decide_eq_true_eq, decide_eq_true_eq]
  -- the near nodes are the end nodes, in some order
  have hnear : ∀ s : List P, s.Nodup → (∀ n, n ∈ s ↔ n = br.a ∨ n = br.b) → (nodesNear close nodes br).Perm s := by
    intro s hs hmem
    apply (List.perm_ext_iff_of_nodup (hnd.filter _) hs).mpr
    intro n
    have hn : n = br.a ∨ n = br.b → n ∈ nodes := by rintro (rfl | rfl) <;> assumption
    rw [hmem, List.mem_filter]
    exact ⟨fun ⟨hn, h⟩ => (hclose n hn).mp h, fun h => ⟨hn h, (hclose n (hn h)).mpr h⟩⟩
  have hmem : ∀ n ∈ nodes, cls n ∈ ["I", "X", "Y", "E"] := by
    simpa only [List.mem_cons, List.not_mem_nil, or_false] using hcls
  unfold branchLabel
  rw [C05_branch_identity_total]
  by_cases hab : br.a = br.b
  · have hp := hnear [br.a] (List.pairwise_singleton _ _) fun n => by rw [List.mem_singleton, ← hab, or_self]
    rw [if_pos hab, hp.countP_eq, hp.countP_eq, hp.countP_eq]
    -- one node at both ends: the three counts sum to 1, whatever its class
    have single : ∀ c ∈ ["I", "X", "Y", "E"],
        Spec.pairLabel ([c].countP (· == "I")) ([c].countP fun s => s == "X" || s == "Y") ([c].countP (· == "E")) = "Error" := by
      decide
    exact single _ (hmem _ ha)
  · have hp := hnear [br.a, br.b] (List.pairwise_pair.mpr hab) fun n => by
      rw [List.mem_cons, List.mem_singleton]
    rw [if_neg hab, hp.countP_eq, hp.countP_eq, hp.countP_eq]
    -- the label from the counts and the label from the kinds agree on each of the 4 × 4 pairs of classes
    have pair : ∀ c ∈ ["I", "X", "Y", "E"], ∀ d ∈ ["I", "X", "Y", "E"],
        Spec.pairLabel ([c, d].countP (· == "I")) ([c, d].countP fun s => s == "X" || s == "Y") ([c, d].countP (· == "E"))
          = Spec.pairLabelOfKinds (Spec.kindOf c) (Spec.kindOf d) := by
      decide
    exact pair _ (hmem _ ha) _ (hmem _ hb)

/-- non-vacuity: three branches meeting in one point, one free tip shared by nobody -/
example :
    let bs : List (Branch Nat) := [⟨0, 1⟩, ⟨2, 1⟩, ⟨3, 1⟩]
    collect bs = [0, 1, 2, 3] ∧ mult bs 1 = 3 ∧
      nodeClass (fun _ => false) Gen.degree_to_class bs 1 = "Y" ∧
      nodeClass (fun p => p == 3) Gen.degree_to_class bs 3 = "E" ∧
      branchLabel Gen.determine_branch_identity (fun p q => p == q) (collect bs)
        (nodeClass (fun p => p == 3) Gen.degree_to_class bs) ⟨3, 1⟩ = "C - E" := by
  decide

/-- **The regenerated node collection IS the model's node table.** `Gen.node_identities_from_branches` and the
`Gen.node_identity` it calls are regenerated from /repo on every run (the loop over all branch ends, the WKT-keyed
dict, the boundary test, the point query, `remove(idx)`, the count of candidates within the threshold, the degree
chain). Under the laws of the geometry parameters (`QueryLaw`: the point query at an end returns the positions of
the coincident ends; a point is within the threshold of itself) the generated code returns exactly
`Topo.collect` with `Topo.nodeClass` -- so every theorem above (`C05_nodes_nodup`, `C05_handshake`,
`C05_E_iff_boundary`, `C05_class_of_degree`, ...) is a statement about the regenerated code. -/
theorem C05_generated_node_table {A : Type} (bdist : P → A → Rat) (dist : P → P → Rat) (query : P → List Nat) (dflt : P)
    (bs : List (Branch P)) (areas : List A) (t : Rat) (hq : NodeTable.QueryLaw query (ends bs)) (ht : ∀ p, dist p p < t) :
    Gen.node_identities_from_branches bdist dist query id dflt (ends bs) areas t =
      (collect bs, (collect bs).map (nodeClass (fun p => areas.any fun a => decide (bdist p a < t)) Gen.degree_to_class bs)) := by
  have hg : ∀ pi ∈ (ends bs).zipIdx, Gen.node_identity bdist dist query pi.1 pi.2 areas (fun i => (ends bs).getD i dflt) t
      = nodeClass (fun p => areas.any fun a => decide (bdist p a < t)) Gen.degree_to_class bs pi.1 :=
    fun _ hpi => NodeTable.node_identity_eq hq ht (List.mem_zipIdx_iff_getElem?.mp hpi)
  have hnone : ∀ q ∈ firstSeen (ends bs), (!alistHas ([] : AList P (P × String)) q) = true := fun _ _ => rfl
  unfold Gen.node_identities_from_branches collect
  simp only [NodeTable.loop1_eq hg, List.nil_append, List.zipIdx_map_fst, List.filter_eq_self.mpr hnone,
    List.map_map, List.length_map, Function.comp_def, List.map_id']
  -- `if len(collected_nodes) == 0` returns what the general case would
  cases firstSeen (ends bs) <;> rfl

/-- non-vacuity: three branches meeting at point 1 (a Y-node), ends 0, 2, 3 free; one area whose boundary is
near point 3 only; the query answers with the positions of equal ends -/
example :
    let bs : List (Branch Nat) := [⟨0, 1⟩, ⟨2, 1⟩, ⟨3, 1⟩]
    let query : Nat → List Nat := fun p => NodeTable.positions (ends bs) p
    Gen.node_identities_from_branches (fun p (_ : Unit) => if p = 3 then 0 else 10) (fun _ _ => 0) query id 0 (ends bs) [()] 1
      = ([0, 1, 2, 3], ["I", "Y", "I", "E"]) := by decide +kernel

/-- **The regenerated branch labelling IS the model's.** `Gen.get_branch_identities` is regenerated from /repo on every
run (loop over the branches, bounding-box query, `iloc`, distance mask, `compress`, the three counts, the call of the
regenerated `determine_branch_identity`). Under the law of the query parameter (`BoxLaw`: the candidates are the nodes inside
some box that contains every node within the threshold) it labels every branch exactly as `Topo.branchLabel` does -- so
`C05_branch_label` is a statement about the regenerated code. -/
theorem C05_generated_branch_labels (bquery : Branch P → List Nat) (edist : P → Branch P → Rat) (close : P → P → Bool)
    (ns : List P) (dflt : P) (cls : P → String) (t : Rat) (brs : List (Branch P))
    (hclose : ∀ n br, decide (edist n br < t) = (close n br.a || close n br.b))
    (law : ∀ br ∈ brs, BranchTable.BoxLaw bquery edist ns t br) :
    Gen.get_branch_identities bquery edist brs (fun i => ns.getD i dflt) (ns.map cls) t
      = brs.map (branchLabel Gen.determine_branch_identity close ns cls) := by
  unfold Gen.get_branch_identities
  refine (Loop.collect (fun _ => rfl) (fun _ _ _ => rfl) brs []).trans ?_
  rw [List.nil_append, ← List.map_eq_flatMap]
  apply List.map_congr_left
  intro br hbr
  -- the three counts do not depend on the order in which the query reports the candidates; `elem c ["X", "Y"]` is the model's `c == "X" || c == "Y"`
  simp only [(BranchTable.near_types_perm dflt cls (law br hbr)).countP_eq, List.countP_map, branchLabel, nodesNear, hclose,
    Function.comp_def, List.elem_eq_contains, List.contains_cons, List.contains_nil, Bool.or_false]

/-- **The node table is computed from exactly the branches that are returned.** In the regenerated orchestration of
`branches_and_nodes` (`Pipeline.finish`, the tail of `Pipeline.generated_pipeline`): when extraction completes, the returned
branch geometries are the noded pieces that passed the length filter, the node table (points and classes) is the one computed from THOSE
branches, and the labels are computed from those branches and that table -- no branch that is dropped afterwards ever contributed an
end to a node, and no returned branch is missing from the count. (`C05_handshake` etc. are about that table.) -/
theorem C05_generated_tables_from_output_branches {G' A' U' N' : Type} (len : G' → Rat) (union_all : List G' → U') (u_is_multi u_is_line : U' → Bool) (u_parts : U' → List G')
    (node_table : List G' → List A' → Rat → List N' × List String) (branch_labels : List G' → List N' → List String → Rat → List String)
    (areas : List A') (t : Rat) (snapped : List G') (brs : List (G' × String)) (nds : List (N' × String))
    (h : Pipeline.finish len union_all u_is_multi u_is_line u_parts node_table branch_labels areas t snapped = .ok (brs, nds)) :
    let B := (u_parts (union_all (snapped.filter fun tr => decide (len tr > t * (201 / 100))))).filter fun b => decide (len b > t * (101 / 100))
    brs = List.zip B (branch_labels B (node_table B areas t).1 (node_table B areas t).2 t) ∧
    nds = List.zip (node_table B areas t).1 (node_table B areas t).2 := by
  unfold Pipeline.finish at h
  simp only at h
  split at h
  · simp only [Except.ok.injEq, Prod.mk.injEq] at h
    exact ⟨h.1.symm, h.2.symm⟩
  · cases h

end C05
