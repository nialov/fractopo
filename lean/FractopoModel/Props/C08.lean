import FractopoModel.Spec.SandersonNixon
import FractopoModel.Spec.Classes
import FractopoModel.Generated.TopologyParameters
import FractopoModel.Generated.BoundaryWeight
import FractopoModel.Generated.ParamTable
import FractopoModel.Generated.BranchBoundary
import FractopoModel.Lemmas.BoundaryLines
import FractopoModel.Generated.NetworkInit
import FractopoModel.Generated.LineDataCache
import FractopoModel.Lemmas.Lists
/-!
# C08 — network parameters equal the published definitions
-/
namespace C08
open Spec

/-- node-count dictionary of the generated function from a spec input -/
def counts (n : NetIn) : String → Rat := fun k =>
  if k = "X" then n.X else if k = "Y" then n.Y else if k = "I" then n.I else if k = "E" then n.E else 0

def gen (n : NetIn) (branchesDefined : Bool) : Except String Dict :=
  Gen.determine_topology_parameters n.pi n.sqrt n.traceLens n.area branchesDefined n.circular (counts n) n.branchLens

/-- the generated parameter table is the documented list of names (plus the multi-network
bookkeeping column "Circle Count", which is not a network parameter) -/
theorem C08_param_names : Gen.paramNames.Perm ("Circle Count" :: Spec.paramNames) :=
  List.perm_append_singleton "Circle Count" Spec.paramNames

/-- the eight parameters that need no topology, in the order the code lists them, each with its published definition -/
def plain (n : NetIn) : Dict :=
  [("Fracture Intensity B21", .num n.p21), ("Fracture Intensity P21", .num n.p21), ("Trace Min Length", .num n.minTrace),
   ("Trace Max Length", .num n.maxTrace), ("Trace Mean Length", .num n.meanTrace), ("Dimensionless Intensity P22", .num (n.p21 * n.meanTrace)),
   ("Area", .num n.area), ("Number of Traces (Real)", .num (n.traceLens.length : Rat))]

/-- the fifteen topological parameters, likewise -/
def topological (n : NetIn) : Dict :=
  [("Number of Traces", .num n.nTraces), ("Branch Min Length", .num n.minBranch), ("Branch Max Length", .num n.maxBranch),
   ("Branch Mean Length", .num n.meanBranch), ("Areal Frequency B20", .num (n.nBranches / n.area)), ("Areal Frequency P20", .num (n.nTraces / n.area)),
   ("Dimensionless Intensity B22", .num (n.p21 * n.meanBranch)), ("Connections per Trace", .num n.connPerTrace),
   ("Connections per Branch", .num n.connPerBranch), ("Fracture Intensity (Mauldon)", n.mauldon (n.mauldonMeanLen * n.mauldonDensity)),
   ("Fracture Density (Mauldon)", n.mauldon n.mauldonDensity), ("Trace Mean Length (Mauldon)", n.mauldon n.mauldonMeanLen),
   ("Connection Frequency", .num ((n.Y + n.X) / n.area)), ("Number of Branches", .num n.nBranches),
   ("Number of Branches (Real)", .num (n.branchLens.length : Rat))]

/-- what is reported as `nan` without topology: every other name of the regenerated parameter table, in its order -/
def undefinedNames : List String :=
  ["Areal Frequency B20", "Areal Frequency P20", "Branch Mean Length", "Branch Min Length", "Branch Max Length", "Connections per Branch",
   "Connections per Trace", "Connection Frequency", "Dimensionless Intensity B22", "Fracture Density (Mauldon)", "Fracture Intensity (Mauldon)",
   "Number of Branches", "Number of Branches (Real)", "Number of Traces", "Trace Mean Length (Mauldon)", "Circle Count"]

/-- **What the generated function returns, in the specification's words.** This is where the arithmetic of the code meets the published definitions (one
`simp` over the variables); everything below is looking names up in these literal lists. -/
theorem gen_eq (n : NetIn) (topo : Bool) :
    gen n topo = .ok (plain n ++ if topo then topological n else undefinedNames.map fun k => (k, .nan)) := by
  obtain ⟨X, Y, I, E, tl, bl, area, circ, pi, sqrt⟩ := n
  have hB : (X * 4 + Y * 3 + I) / 2 = (4 * X + 3 * Y + I) / 2 := by grind
  have hA : area * 2 = 2 * area := by grind
  -- the circular flag is read by the Mauldon estimators only, which need topology
  cases topo
  rotate_left
  cases circ
  all_goals
    simp [gen, Gen.determine_topology_parameters, plain, topological, undefinedNames, counts, dictHas, Gen.paramNames, NetIn.p21, NetIn.totalLen, NetIn.minTrace, NetIn.maxTrace,
      NetIn.meanTrace, NetIn.nTraces, NetIn.nBranches, NetIn.minBranch, NetIn.maxBranch, NetIn.meanBranch, NetIn.safeDiv, NetIn.connPerTrace, NetIn.connPerBranch,
      NetIn.mauldon, NetIn.mauldonMeanLen, NetIn.mauldonDensity, NetIn.radius, listMean, hB, hA]

/-- Every reported parameter equals its published definition, for all counts, length lists,
areas, π, √ and both values of the circular flag; the function never raises. -/
theorem C08_params_eq_spec (n : NetIn) :
    ∃ d, gen n true = .ok d ∧ ∀ k ∈ Spec.paramNames, dictGet d k = n.param k := by
  refine ⟨_, gen_eq n true, ?_⟩
  simp only [Spec.paramNames, List.forall_mem_cons, List.not_mem_nil, false_imp_iff, implies_true, and_true]
  -- each look-up is a closed computation on string literals; `rfl` checks it several times faster than `simp`
  and_intros <;> rfl

/-- zero instead of a division error: with no I-, Y-, X-nodes every guarded quotient is 0 and
the function still returns (no error value), whatever the lengths and area -/
theorem C08_zero_denominators (n : NetIn) (hX : n.X = 0) (hY : n.Y = 0) (hI : n.I = 0) :
    ∃ d, gen n true = .ok d ∧
      dictGet d "Connections per Branch" = some (.num 0) ∧
      dictGet d "Connections per Trace" = some (.num 0) ∧
      dictGet d "Branch Mean Length" = some (.num 0) ∧
      dictGet d "Dimensionless Intensity B22" = some (.num 0) ∧
      dictGet d "Trace Mean Length (Mauldon)" = some (if n.circular then .num 0 else .nan) := by
  have hb : n.nBranches = 0 := by rw [NetIn.nBranches, hX, hY, hI]; grind
  have ht : n.nTraces = 0 := by rw [NetIn.nTraces, hY, hI]; grind
  obtain ⟨d, hd, h⟩ := C08_params_eq_spec n
  refine ⟨d, hd, ?_, ?_, ?_, ?_, ?_⟩
  · rw [h _ (by simp [Spec.paramNames]), NetIn.param]; simp [NetIn.connPerBranch, NetIn.safeDiv, hb]
  · rw [h _ (by simp [Spec.paramNames]), NetIn.param]; simp [NetIn.connPerTrace, NetIn.safeDiv, ht]
  · rw [h _ (by simp [Spec.paramNames]), NetIn.param]; simp [NetIn.meanBranch, NetIn.safeDiv, hb]
  · rw [h _ (by simp [Spec.paramNames]), NetIn.param]; simp [NetIn.meanBranch, NetIn.safeDiv, hb]
  · rw [h _ (by simp [Spec.paramNames]), NetIn.param]; simp [NetIn.mauldon, NetIn.mauldonMeanLen, hY, hI, Rat.add_zero, Rat.lt_irrefl]

/-- the three Mauldon estimators are `nan` exactly for non-circular areas -/
theorem C08_mauldon_only_circular (n : NetIn) :
    ∃ d, gen n true = .ok d ∧ ∀ k ∈ ["Trace Mean Length (Mauldon)", "Fracture Density (Mauldon)", "Fracture Intensity (Mauldon)"],
      ((dictGet d k = some .nan) ↔ n.circular = false) := by
  obtain ⟨d, hd, h⟩ := C08_params_eq_spec n
  refine ⟨d, hd, fun k hk => ?_⟩
  simp only [List.mem_cons, List.mem_nil_iff, or_false] at hk
  rcases hk with rfl | rfl | rfl <;> rw [h _ (by simp [Spec.paramNames]), NetIn.param] <;> cases hc : n.circular <;> simp [NetIn.mauldon, hc]

/-- without topology: the non-topological parameters keep their definitions, all others are `nan` -/
theorem C08_without_topology (n : NetIn) :
    ∃ d, gen n false = .ok d ∧ ∀ k ∈ Spec.paramNames,
      dictGet d k = if k ∈ Spec.nonTopological then n.param k else some .nan := by
  refine ⟨_, gen_eq n false, ?_⟩
  simp only [Spec.paramNames, List.forall_mem_cons, List.not_mem_nil, false_imp_iff, implies_true, and_true]
  and_intros <;> rfl

/-- boundary weights: 1, 2, 0 for 0, 1, 2 intersections and an error otherwise -/
theorem C08_weights (c : Int) :
    Gen.intersection_count_to_boundary_weight c =
      match Spec.boundaryWeight c with
      | some w => .ok w
      | none => .error "ValueError" := by
  unfold Gen.intersection_count_to_boundary_weight Spec.boundaryWeight
  split <;> grind

/-- the sum of two boolean arrays is pointwise the number of trues, hence in {0,1,2} -/
theorem C08_bool_sum (a b : Bool) :
    Gen.bool_sum a b = a.toNat + b.toNat ∧ Gen.bool_sum a b ≤ 2 := by
  cases a <;> cases b <;> decide

/-- a branch labelled with the pair of its end kinds intersects the boundary as many times as
it has E ends (so the length weights 1, 2, 0 apply to 0, 1, 2 E-ends) -/
theorem C08_branch_boundary_count (k1 k2 : String)
    (h1 : k1 = "C" ∨ k1 = "I" ∨ k1 = "E") (h2 : k2 = "C" ∨ k2 = "I" ∨ k2 = "E") :
    Gen.branch_boundary_count (Spec.pairLabelOfKinds k1 k2) =
      (if k1 = "E" then 1 else 0) + (if k2 = "E" then 1 else 0) := by
  rcases h1 with rfl | rfl | rfl <;> rcases h2 with rfl | rfl | rfl <;> decide

/-! ### boundary-intersection counts of the lines (regenerated loops of `determine_boundary_intersecting_lines`) -/

section boundary
variable {A L P : Type}

/-- **Which lines intersect the boundary, which cut through.** The regenerated loops flag the line with index value `idx` as
*intersecting* exactly when, for some target area, it is among that area's window candidates and strictly within the threshold
of the area's boundary; and as *cutting through* when in addition both its ends are within the threshold of that boundary, or
no end lies inside the area while the line touches it -- for any number of areas and lines, in frame order. -/
theorem C08_generated_boundary_lines (areas : List A) (wq : A → List Nat) (line_at : Nat → L) (ldist : L → A → Rat) (ends_of : L → List P)
    (pdist : P → A → Rat) (within : P → A → Bool) (touches : L → A → Bool) (iv : List Nat) (t : Rat) :
    Gen.boundary_intersecting_lines areas wq line_at ldist ends_of pdist within touches iv t =
      (iv.map (fun idx => areas.any fun a => (wq a).any fun c => c == idx && nearB line_at ldist t a c),
       iv.map (fun idx => areas.any fun a => (wq a).any fun c => c == idx && (nearB line_at ldist t a c && cutsB line_at ends_of pdist within touches t a c))) :=
  generated_boundary_lines areas wq line_at ldist ends_of pdist within touches iv t

/-- **The count is the number of ends on the boundary** (0, 1 or 2) for a two-ended line in one area, on crisp input: the line is
near the boundary exactly when one of its ends is; an end that is not on the boundary lies inside the area. With the regenerated
`bool_sum` the count is `[intersecting] + [cuts through]`. -/
theorem C08_count_is_ends_on_boundary (e1 e2 : P) (a : A) (pdist : P → A → Rat) (within : P → A → Bool) (near touches : Bool) (t : Rat)
    (hnear : near = (decide (pdist e1 a < t) || decide (pdist e2 a < t)))
    (h1 : ¬ pdist e1 a < t → within e1 a = true) (h2 : ¬ pdist e2 a < t → within e2 a = true) :
    Gen.bool_sum near (near && (([e1, e2].all fun e => decide (pdist e a < t)) || (!([e1, e2].any fun e => within e a) && touches)))
      = (if pdist e1 a < t then 1 else 0) + (if pdist e2 a < t then 1 else 0) := by
  subst hnear
  unfold Gen.bool_sum
  by_cases c1 : pdist e1 a < t <;> by_cases c2 : pdist e2 a < t
  · simp [c1, c2]
  · simp [c1, c2, h2 c2]
  · simp [c1, c2, h1 c1]
  · simp [c1, c2]

end boundary

example : ∃ n : NetIn, n.X = 1 ∧ n.area > 0 ∧ n.param "Connections per Branch" = some (.num 2) :=
  ⟨⟨1, 0, 0, 4, [2, 2], [1, 1, 1, 1], 4, true, 3, fun x => x⟩, by decide +kernel⟩

/-! ### the column cache of `LineData` (regenerated from its checked shape) -/

/-- the weight of a boundary-intersection count: 1, 2, 0 for 0, 1, 2 ends on the boundary -/
def w012 (c : Int) : Int := if c = 0 then 1 else if c = 1 then 2 else 0

/-- **Length weights come from the boundary counts.** With no weight column in the wrapped frame, the regenerated `LineData.length_boundary_weights`
maps the regenerated `intersection_count_to_boundary_weight` over the line's boundary-intersection counts (1, 2, 0 for 0, 1, 2) and stores the result under
its own column. -/
theorem C08_linedata_weights (counts : List Int) (cols : LineCols) (h : cols.boundary_weight = none) (hc : ∀ c ∈ counts, c = 0 ∨ c = 1 ∨ c = 2) :
    Gen.ld_length_boundary_weights Gen.intersection_count_to_boundary_weight counts.length counts cols =
      .ok (counts.map w012, { cols with boundary_weight := some (counts.map w012) }) := by
  unfold Gen.ld_length_boundary_weights
  rw [h]
  have : counts.mapM Gen.intersection_count_to_boundary_weight = .ok (counts.map w012) :=
    List.mapM_ok_of_forall fun c hmem => by rcases hc c hmem with rfl | rfl | rfl <;> rfl
  simp only [this, List.length_map, if_true]

/-- **Weighted lengths are own length × weight.** With neither a length nor a weight column in the wrapped frame and one boundary count per line, the
regenerated `LineData.length_array` is the line lengths times the weights of their boundary counts, stored under the length column (and the weights
under theirs). -/
theorem C08_linedata_lengths (lengths : List Rat) (counts : List Int) (cols : LineCols) (hl : cols.length = none) (hw : cols.boundary_weight = none)
    (hne : counts ≠ []) (hrows : lengths.length = counts.length) (hc : ∀ c ∈ counts, c = 0 ∨ c = 1 ∨ c = 2) :
    ∃ cols', Gen.ld_length_array Gen.intersection_count_to_boundary_weight lengths counts cols =
      (.ok (List.zipWith (fun (l : Rat) (k : Int) => l * (k : Rat)) lengths (counts.map w012)), cols') ∧
      cols'.length = some (List.zipWith (fun (l : Rat) (k : Int) => l * (k : Rat)) lengths (counts.map w012)) ∧ cols'.boundary_weight = some (counts.map w012) := by
  unfold Gen.ld_length_array
  rw [hl]
  have hpos : counts.length > 0 := by cases counts with | nil => exact absurd rfl hne | cons _ _ => simp
  simp only [hpos, if_true]
  rw [hrows, C08_linedata_weights counts cols hw hc]
  exact ⟨_, rfl, rfl, rfl⟩

/-- **A Network's values come from its own traces, not from what an earlier analysis left in the caller's frame.** In the regenerated
`Network.__post_init__` everything the Network keeps is a function of the copy taken of the caller's frame at construction; the length, weight and
boundary-count columns that `LineData` caches are written into that copy (and into the crop made from it), never into the caller's frame, so a second
Network built from the same caller's frame starts from the same columns as the first. (History stream S08-network observes exactly this.) -/
theorem C08_network_values_from_a_copy {G' A' : Type} (area_is_empty : A' → Bool) (copy_ : List G' → List G') (has_z : List G' → Bool) (drop_z : List G' → List G')
    (crop_ : List G' → A' → Bool → List G') (given : Bool) (traces traces' : List G') (area : A') (truncate circular topo rz : Bool)
    (h : copy_ traces = copy_ traces') :
    Gen.network_init area_is_empty copy_ has_z drop_z crop_ given traces area truncate circular topo rz () () =
      Gen.network_init area_is_empty copy_ has_z drop_z crop_ given traces' area truncate circular topo rz () () := by
  unfold Gen.network_init
  rw [h]

/-- the hypothesis is met by two different caller frames with the same copy, and the frame the Network keeps is then the same -/
example : Gen.network_init (fun (_ : Unit) => false) (fun (l : List Nat) => l.map (· % 10)) (fun _ => false) id (fun l _ _ => l) true [11, 22] () false false false false () ()
    = Gen.network_init (fun (_ : Unit) => false) (fun (l : List Nat) => l.map (· % 10)) (fun _ => false) id (fun l _ _ => l) true [1, 2] () false false false false () () := by decide

end C08
