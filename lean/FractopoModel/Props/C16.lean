import FractopoModel.Basic.Geom
import FractopoModel.Generated.ValidationDefaults
import FractopoModel.Generated.IndexMargins
import FractopoModel.Generated.SnapConstants
import FractopoModel.Generated.JunctionShift
import FractopoModel.Lemmas.BoundaryLines
import FractopoModel.Generated.ValidationUtils
import FractopoModel.Lemmas.CropHelpers
import FractopoModel.Lemmas.Lists
/-!
# C16 — spatial indexing is a pure optimisation

A spatial-index query returns the features whose bounding box meets the query window.  If the
window is the bounding box of a geometry extended by a margin `μ`, then every feature that has
a point within distance `τ ≤ μ` of a point of the geometry is returned; so filtering the query
result by any predicate that implies "within τ" equals filtering ALL features.
The margins are regenerated from the call sites and compared with the distances the consuming
code tests.
-/
namespace C16

structure BoxP where
  minx : Rat
  miny : Rat
  maxx : Rat
  maxy : Rat

def BoxP.contains (b : BoxP) (p : Pt) : Prop := b.minx ≤ p.x ∧ p.x ≤ b.maxx ∧ b.miny ≤ p.y ∧ p.y ≤ b.maxy
def BoxP.expand (b : BoxP) (m : Rat) : BoxP := ⟨b.minx - m, b.miny - m, b.maxx + m, b.maxy + m⟩
def BoxP.meets (a b : BoxP) : Prop := a.minx ≤ b.maxx ∧ b.minx ≤ a.maxx ∧ a.miny ≤ b.maxy ∧ b.miny ≤ a.maxy

instance (a b : BoxP) : Decidable (a.meets b) := by unfold BoxP.meets; infer_instance

/-- one axis: intervals holding points `p`, `q` at most `μ` apart meet once the first is widened by `μ` -/
theorem axis_meets {lo hi lo' hi' p q μ : Rat} (hp : lo ≤ p) (hp' : p ≤ hi) (hq : lo' ≤ q) (hq' : q ≤ hi') (h : p ≤ q + μ ∧ q ≤ p + μ) :
    lo - μ ≤ hi' ∧ lo' ≤ hi + μ :=
  ⟨Rat.sub_right_le_iff_le_add.mpr (Rat.le_trans hp (Rat.le_trans h.1 (Rat.add_le_add_right.mpr hq'))),
    Rat.le_trans hq (Rat.le_trans h.2 (Rat.add_le_add_right.mpr hp'))⟩

/-- coordinates `p`, `q` of two points at most `τ ≤ μ` apart (`b` the difference of their other coordinates) are at most `μ` apart -/
theorem coord_within {p q b τ μ : Rat} (hτ : 0 ≤ τ) (hμ : τ ≤ μ) (h : (p - q) * (p - q) + b * b ≤ τ * τ) : p ≤ q + μ ∧ q ≤ p + μ := by
  have hpq : (p - q) * (p - q) ≤ τ * τ :=
    Rat.le_trans (by simpa only [Rat.add_zero] using Rat.add_le_add_left.mpr (Rat.mul_self_nonneg b)) h
  have key (u v : Rat) (huv : (u - v) * (u - v) = (p - q) * (p - q)) : u ≤ v + μ := by
    -- otherwise `τ² < (u - v)² = (p - q)² ≤ τ²`
    rw [Rat.add_comm]
    refine Rat.sub_right_le_iff_le_add.mp (Rat.le_trans (Rat.not_lt.mp fun hτuv => ?_) hμ)
    have := Rat.mul_self_lt_mul_self hτ hτuv
    rw [huv] at this
    exact Rat.not_le.mpr this hpq
  exact ⟨key p q rfl, key q p (by rw [← Rat.neg_sub, Rat.neg_mul, Rat.mul_neg, Rat.neg_neg])⟩

/-- boxes of geometries with points at most `τ` apart meet once the first is extended by a margin `μ ≥ τ` -/
theorem bbox_of_within {A B : BoxP} {p q : Pt} {τ μ : Rat} (hτ : 0 ≤ τ) (hμ : τ ≤ μ) (hp : A.contains p) (hq : B.contains q)
    (h : Pt.dist2 p q ≤ τ * τ) : (A.expand μ).meets B :=
  have hd : (p.x - q.x) * (p.x - q.x) + (p.y - q.y) * (p.y - q.y) ≤ τ * τ := h
  have ⟨x1, x2⟩ := axis_meets hp.1 hp.2.1 hq.1 hq.2.1 (coord_within hτ hμ hd)
  have ⟨y1, y2⟩ := axis_meets hp.2.2.1 hp.2.2.2 hq.2.2.1 hq.2.2.2 (coord_within hτ hμ (Rat.add_comm _ _ ▸ hd))
  ⟨x1, x2, y1, y2⟩

/-- **Boxes of close geometries meet.** If some point of a geometry (inside its box `A`) is closer
than `τ` to some point of a feature (inside its box `B`), then `B` meets `A` extended by any
margin `μ ≥ τ`. -/
theorem C16_bbox_of_close (A B : BoxP) (p q : Pt) (τ μ : Rat) (hτ : 0 ≤ τ) (hμ : τ ≤ μ)
    (hp : A.contains p) (hq : B.contains q) (h : Pt.dist2 p q < τ * τ) : (A.expand μ).meets B :=
  bbox_of_within hτ hμ hp hq (Rat.le_of_lt h)

/-- touching geometries (`τ = 0`: a common point) have meeting boxes with margin 0 -/
theorem C16_bbox_of_touching (A B : BoxP) (p : Pt) (hp : A.contains p) (hq : B.contains p) : (A.expand 0).meets B := by
  refine bbox_of_within Rat.le_refl Rat.le_refl hp hq ?_
  show (p.x - p.x) * (p.x - p.x) + (p.y - p.y) * (p.y - p.y) ≤ 0 * 0
  rw [Rat.sub_self, Rat.sub_self, Rat.mul_zero, Rat.add_zero]
  exact Rat.le_refl

/-- one axis: a convex combination of two numbers of an interval lies in the interval -/
theorem lerp_between {t u v lo hi : Rat} (h0 : 0 ≤ t) (h1 : t ≤ 1) (hu : lo ≤ u) (hu' : u ≤ hi) (hv : lo ≤ v) (hv' : v ≤ hi) :
    lo ≤ u + t * (v - u) ∧ u + t * (v - u) ≤ hi := by
  -- `u + t (v - u) = (1 - t) u + t v`, and each of the two products lies between its factor times `lo` and times `hi`
  have ht : 0 ≤ 1 - t := (Rat.le_iff_sub_nonneg _ _).mp h1
  have a1 := Rat.mul_le_mul_of_nonneg_left hu ht
  have a2 := Rat.mul_le_mul_of_nonneg_left hv h0
  have b1 := Rat.mul_le_mul_of_nonneg_left hu' ht
  have b2 := Rat.mul_le_mul_of_nonneg_left hv' h0
  grind

/-- a point of a segment lies in every box that contains the segment's ends -/
theorem C16_lerp_in_box (A : BoxP) (a b : Pt) (t : Rat) (h0 : 0 ≤ t) (h1 : t ≤ 1) (ha : A.contains a) (hb : A.contains b) :
    A.contains (Pt.lerp a b t) :=
  have ⟨x1, x2⟩ := lerp_between h0 h1 ha.1 ha.2.1 hb.1 hb.2.1
  have ⟨y1, y2⟩ := lerp_between h0 h1 ha.2.2.1 ha.2.2.2 hb.2.2.1 hb.2.2.2
  ⟨x1, x2, y1, y2⟩

/-- **Transparency of a windowed query.** `feats` with boxes; the query keeps the features whose
box meets the window `A.expand μ`; `near f` says some point of the geometry is within `τ` of some
point of `f` (witnessed inside the boxes).  For any predicate that implies `near`, filtering the
query result equals filtering all features. -/
theorem C16_transparent {F : Type} (feats : List F) (box : F → BoxP) (A : BoxP) (τ μ : Rat) (hτ : 0 ≤ τ) (hμ : τ ≤ μ)
    (pred : F → Bool)
    (hnear : ∀ f ∈ feats, pred f = true → ∃ p q, A.contains p ∧ (box f).contains q ∧ Pt.dist2 p q < τ * τ) :
    (feats.filter fun f => decide ((A.expand μ).meets (box f))).filter pred = feats.filter pred := by
  rw [List.filter_filter]
  refine List.filter_congr fun f hf => ?_
  -- where `pred` holds the box meets the window, so the window test adds nothing to `pred`
  cases hp : pred f
  · rfl
  · obtain ⟨p, q, h1, h2, h3⟩ := hnear f hf hp
    exact decide_eq_true (C16_bbox_of_close A (box f) p q τ μ hτ hμ h1 h2 h3)

/-! ### the margins at the call sites (regenerated) against the distances the consumers test -/

/-- validation candidates: the window is extended by threshold x error multiplier x stacking-buffer
multiplier, which bounds every distance a candidate-consuming validator tests (threshold,
threshold x multiplier, stacking buffer) whenever both multipliers are >= 1 -/
theorem C16_validation_margin (t m k : Rat) (ht : 0 ≤ t) (hm : 1 ≤ m) (hk : 1 ≤ k) :
    t ≤ Gen.candidate_window_margin t m k ∧ t * m ≤ Gen.candidate_window_margin t m k ∧
    t * m * k ≤ Gen.candidate_window_margin t m k := by
  have h1 : t ≤ t * m := Rat.le_mul_of_one_le ht hm
  have h2 : t * m ≤ t * m * k := Rat.le_mul_of_one_le (Rat.le_trans ht h1) hk
  exact ⟨Rat.le_trans h1 h2, h2, Rat.le_refl⟩

/-- snapping candidates (20 t ≥ t), junction candidates (10·t·m ≥ t·m), boundary candidates
(100 t ≥ t), proximal traces (5 b ≥ b) -/
theorem C16_other_margins (t m b : Rat) (ht : 0 ≤ t) (hm : 0 ≤ m) (hb : 0 ≤ b) (minx miny maxx maxy : Rat) :
    Gen.snap_extended_bounds minx miny maxx maxy t = (minx - 20 * t, miny - 20 * t, maxx + 20 * t, maxy + 20 * t) ∧
    t ≤ 20 * t ∧
    Gen.junction_distance t m ≤ Gen.junction_window_margin t m ∧
    t ≤ Gen.boundary_window_margin t ∧
    Gen.extend_bounds minx miny maxx maxy (Gen.boundary_window_margin t) = (minx - 100 * t, miny - 100 * t, maxx + 100 * t, maxy + 100 * t) ∧
    b ≤ Gen.proximal_window_margin b := by
  refine ⟨?_, ?_, Rat.le_mul_of_one_le (Rat.mul_nonneg ht hm) (by decide), Rat.le_mul_of_one_le ht (by decide), ?_,
    Rat.le_mul_of_one_le hb (by decide)⟩
  · rw [Gen.snap_extended_bounds, Rat.mul_comm t]
  · rw [Rat.mul_comm]; exact Rat.le_mul_of_one_le ht (by decide)
  · rw [Gen.boundary_window_margin, Gen.extend_bounds, Rat.mul_comm t]

/-- the defaults satisfy the hypotheses of `C16_validation_margin` -/
theorem C16_defaults : 0 ≤ Gen.SNAP_THRESHOLD ∧ 1 ≤ Gen.SNAP_THRESHOLD_ERROR_MULTIPLIER ∧ 1 ≤ Gen.STACKED_DETECTOR_BUFFER_MULTIPLIER := by
  decide +kernel

example : (BoxP.expand ⟨0, 0, 1, 0⟩ (11 / 1000)).meets ⟨0, 1 / 100, 1, 1 / 100⟩ := by decide +kernel

/-! ### the candidate window of `determine_boundary_intersecting_lines` is transparent -/

section BoundaryLines
variable {A L P : Type}

/-- With windows that return every line strictly within the threshold of their area's boundary (whatever else they return), the regenerated
`determine_boundary_intersecting_lines` flags what the search over all pairs of an area and a line flags. -/
theorem boundary_lines_all_pairs {areas : List A} {wq : A → List Nat} {line_at : Nat → L} {ldist : L → A → Rat} {iv : List Nat} {t : Rat}
    (hw : ∀ a ∈ areas, ∀ c ∈ iv, C08.nearB line_at ldist t a c = true → c ∈ wq a)
    (ends_of : L → List P) (pdist : P → A → Rat) (within : P → A → Bool) (touches : L → A → Bool) :
    Gen.boundary_intersecting_lines areas wq line_at ldist ends_of pdist within touches iv t =
      (iv.map fun idx => areas.any fun a => C08.nearB line_at ldist t a idx,
       iv.map fun idx => areas.any fun a => C08.nearB line_at ldist t a idx && C08.cutsB line_at ends_of pdist within touches t a idx) := by
  -- a flag asks for an area whose window holds the line and on which a test `g` holds that implies nearness: the window clause is redundant
  have key (g : A → Nat → Bool) (hg : ∀ a c, g a c = true → C08.nearB line_at ldist t a c = true) :
      (iv.map fun idx => areas.any fun a => (wq a).any fun c => c == idx && g a c) = iv.map fun idx => areas.any fun a => g a idx := by
    apply List.map_congr_left
    intro idx hidx
    rw [Bool.eq_iff_iff]
    simp only [List.any_eq_true, Bool.and_eq_true, beq_iff_eq]
    constructor
    · rintro ⟨a, ha, c, _, rfl, h⟩; exact ⟨a, ha, h⟩
    · rintro ⟨a, ha, h⟩; exact ⟨a, ha, idx, hw a ha idx hidx (hg a idx h), rfl, h⟩
  rw [C08.generated_boundary_lines, key _ fun _ _ h => h, key _ fun _ _ h => (Bool.and_eq_true _ _ ▸ h).1]

/-- **Boundary-intersection flags do not depend on the candidate window.** For the regenerated loops of
`determine_boundary_intersecting_lines`: any two window queries that both return every line lying strictly within the threshold of
an area's boundary (whatever else they return, in whatever order, however many areas have an EMPTY window, in whatever row
position) give the same two flag arrays -- in particular the spatial index and the return-everything index agree. -/
theorem C16_boundary_lines_transparent (areas : List A) (wq1 wq2 : A → List Nat) (line_at : Nat → L) (ldist : L → A → Rat) (ends_of : L → List P)
    (pdist : P → A → Rat) (within : P → A → Bool) (touches : L → A → Bool) (iv : List Nat) (t : Rat)
    (h1 : ∀ a ∈ areas, ∀ c ∈ iv, C08.nearB line_at ldist t a c = true → c ∈ wq1 a)
    (h2 : ∀ a ∈ areas, ∀ c ∈ iv, C08.nearB line_at ldist t a c = true → c ∈ wq2 a) :
    Gen.boundary_intersecting_lines areas wq1 line_at ldist ends_of pdist within touches iv t
      = Gen.boundary_intersecting_lines areas wq2 line_at ldist ends_of pdist within touches iv t := by
  rw [boundary_lines_all_pairs h1, boundary_lines_all_pairs h2]

end BoundaryLines

/-! ### the candidate search of the validators -/

section Candidates
variable {G : Type}

/-- **What `determine_trace_candidates` returns** (regenerated): the traces at the positions the index reports for the bounds of the
trace extended by `extend_bounds_by` on every side, the trace's own position removed (a `ValueError` of `list.remove` when the index
does not report it), non-LineStrings dropped, in index order. -/
theorem C16_generated_validation_candidates (bounds_of : G → Rat × Rat × Rat × Rat) (index_query : Rat × Rat × Rat × Rat → List Nat) (is_ls : G → Bool)
    (geom : G) (idx : Nat) (traces : List G) (e : Rat) :
    Gen.determine_trace_candidates bounds_of index_query is_ls geom idx traces e =
      (let b := bounds_of geom
       let hits := index_query (b.1 - e, b.2.1 - e, b.2.2.1 + e, b.2.2.2 + e)
       if hits.contains idx then .ok (((hits.erase idx).filterMap fun i => traces[i]?).filter is_ls) else .error "ValueError") := by
  unfold Gen.determine_trace_candidates
  obtain ⟨a, b, c, d⟩ := bounds_of geom
  simp only [Bool.false_eq_true, if_false, List.elem_eq_contains]
  cases (index_query (a - e, b - e, c + e, d + e)).contains idx <;> rfl

/-- **Every trace within reach is a candidate**: if the index reports every position whose bounds meet the window (the law of a
spatial index: it may report more, never less) then every LineString trace other than the validated one whose bounds meet the
extended window is among the candidates -- whatever else the index reports. With `C16_validation_margin` (the window extension
covers every validator's reach) no verdict can depend on the index. -/
theorem C16_candidates_complete (bounds_of : G → Rat × Rat × Rat × Rat) (index_query : Rat × Rat × Rat × Rat → List Nat) (is_ls : G → Bool)
    (geom : G) (idx : Nat) (traces : List G) (e : Rat) (cands : List G) (j : Nat) (g : G)
    (h : Gen.determine_trace_candidates bounds_of index_query is_ls geom idx traces e = .ok cands)
    (hj : j ∈ index_query ((bounds_of geom).1 - e, (bounds_of geom).2.1 - e, (bounds_of geom).2.2.1 + e, (bounds_of geom).2.2.2 + e))
    (hne : j ≠ idx) (hg : traces[j]? = some g) (hls : is_ls g = true) : g ∈ cands := by
  rw [C16_generated_validation_candidates] at h
  simp only at h
  split at h
  · cases h
    rw [List.mem_filter]
    refine ⟨?_, hls⟩
    rw [List.mem_filterMap]
    exact ⟨j, (List.mem_erase_of_ne hne).mpr hj, hg⟩
  · cases h

end Candidates

/-! ### the empty-target-area test -/

section EmptyArea
variable {A G : Type}

/-- **The empty-area test does not depend on the index**: for the regenerated `is_empty_area`, whenever the window of every area row
reports (at least) every trace that meets the row -- and only valid positions -- the answer is "no trace meets any area row",
whatever else the windows report. -/
theorem C16_empty_area_transparent (window : A → List Nat) (meets : G → A → Bool) (area : List A) (traces : List G)
    (hw : ∀ a ∈ area, ∀ (i : Nat) (tr : G), traces[i]? = some tr → meets tr a = true → i ∈ window a) :
    Gen.is_empty_area window meets area traces = !(area.any fun a => traces.any fun tr => meets tr a) := by
  rw [CropH.generated_is_empty_area]
  congr 1
  rw [Bool.eq_iff_iff]
  simp only [List.any_eq_true, List.mem_filterMap]
  constructor
  · rintro ⟨a, ha, tr, ⟨i, _, hi⟩, hm⟩
    exact ⟨a, ha, tr, List.mem_of_getElem? hi, hm⟩
  · rintro ⟨a, ha, tr, htr, hm⟩
    obtain ⟨i, hi⟩ := List.getElem?_of_mem htr
    exact ⟨a, ha, tr, ⟨i, hw a ha i tr hi hm, hi⟩, hm⟩

end EmptyArea

end C16
