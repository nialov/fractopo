import FractopoModel.Model.Cache
import FractopoModel.Generated.CacheDecorated
import FractopoModel.Generated.GridSampling
/-!
# C17 — the disk cache is transparent

`LoadLaw` (hypothesis `damageLaw`): damaged bytes either fail to load or still load to the right
value.  joblib stores no checksum, so the law is FALSE for byte flips inside the pickled payload
(known finding F10); truncation and deletion satisfy it (stream S17 enumerates them).
`KeyInjective` is built into the model: the store is keyed by (function, arguments) itself.
-/
namespace C17
open Cache
variable {K V B : Type} [DecidableEq K]

theorem lookup_mem {s : Store K B} {k : K} {b : B} (h : lookup s k = some b) : (k, b) ∈ s := by
  obtain ⟨p, hf, rfl⟩ := Option.map_eq_some_iff.mp h
  have hp := List.find?_some hf
  exact (of_decide_eq_true hp : p.1 = k) ▸ List.mem_of_find?_eq_some hf

/-- a call on a store that satisfies the invariant returns the value of the function and leaves the store as it is (cache disabled, or a hit)
or stores the dump of the value (a miss: no entry, or one that does not load) -/
theorem step_call (S : Sys K V B) (enabled : Bool) {s : Store K B} (h : StoreOK S s) (k : K) :
    step S enabled s (.call k) = (s, some (S.f k)) ∨ step S enabled s (.call k) = (put s k (S.dump (S.f k)), some (S.f k)) := by
  cases enabled
  · exact .inl rfl
  · have hc : (lookup s k).bind S.load = none ∨ (lookup s k).bind S.load = some (S.f k) := by
      cases hb : lookup s k with
      | none => exact .inl rfl
      | some b => exact h k b (lookup_mem hb)
    simp only [step, Bool.not_true, Bool.false_eq_true, if_false]
    rcases hc with e | e <;> rw [e]
    · exact .inr rfl
    · exact .inl rfl

theorem step_preserves (S : Sys K V B) (roundtrip : ∀ v, S.load (S.dump v) = some v)
    (damageLaw : ∀ (g : B → B) k b, (S.load b = none ∨ S.load b = some (S.f k)) → (S.load (g b) = none ∨ S.load (g b) = some (S.f k)))
    (enabled : Bool) (s : Store K B) (h : StoreOK S s) (op : Op K B) : StoreOK S (step S enabled s op).1 := by
  cases op with
  | call k =>
    rcases step_call S enabled h k with e | e <;> rw [e]
    · exact h
    · -- the new entry loads to the value; the others were there before
      intro k' b' hm
      rcases List.mem_cons.mp hm with e | hm
      · cases e; exact .inr (roundtrip _)
      · exact h k' b' (List.mem_filter.mp hm).1
  | damage k g =>
    intro k' b' hm
    obtain ⟨⟨k0, b0⟩, hm0, heq⟩ := List.mem_map.mp hm
    split at heq <;> cases heq
    · exact damageLaw g _ _ (h _ _ hm0)
    · exact h _ _ hm0
  | delete k => exact fun k' b' hm => h k' b' (List.mem_filter.mp hm).1

theorem step_value (S : Sys K V B) (enabled : Bool) (s : Store K B) (h : StoreOK S s) (k : K) :
    (step S enabled s (.call k)).2 = some (S.f k) := by
  rcases step_call S enabled h k with e | e <;> rw [e]

/-- **Transparency.** For every history of calls, damages and deletions, from every store that
satisfies the invariant (in particular a fresh or a correctly pre-populated directory), with the
cache enabled or disabled, every call returns exactly what the uncached function returns. -/
theorem C17_transparent (S : Sys K V B) (roundtrip : ∀ v, S.load (S.dump v) = some v)
    (damageLaw : ∀ (g : B → B) k b, (S.load b = none ∨ S.load b = some (S.f k)) → (S.load (g b) = none ∨ S.load (g b) = some (S.f k)))
    (enabled : Bool) (ops : List (Op K B)) (s : Store K B) (h : StoreOK S s) :
    (run S enabled s ops).2 = spec S ops := by
  induction ops generalizing s with
  | nil => rfl
  | cons op ops ih =>
    show (step S enabled s op).2 :: (run S enabled (step S enabled s op).1 ops).2 = spec S (op :: ops)
    rw [ih _ (step_preserves S roundtrip damageLaw enabled s h op)]
    cases op with
    | call k => rw [step_value S enabled s h k]; rfl
    | damage k g => rfl
    | delete k => rfl

/-- a fresh cache directory satisfies the invariant -/
theorem C17_fresh_ok (S : Sys K V B) : StoreOK S ([] : Store K B) := fun _ _ h => absurd h List.not_mem_nil

/-- enabled and disabled runs agree call by call (cold, warm, damaged alike) -/
theorem C17_enabled_eq_disabled (S : Sys K V B) (roundtrip : ∀ v, S.load (S.dump v) = some v)
    (damageLaw : ∀ (g : B → B) k b, (S.load b = none ∨ S.load b = some (S.f k)) → (S.load (g b) = none ∨ S.load (g b) = some (S.f k)))
    (ops : List (Op K B)) (s s' : Store K B) (h : StoreOK S s) (h' : StoreOK S s') :
    (run S true s ops).2 = (run S false s' ops).2 := by
  rw [C17_transparent S roundtrip damageLaw true ops s h, C17_transparent S roundtrip damageLaw false ops s' h']

/-- two different inputs never share a result: a stored entry is only ever read under its own key -/
theorem C17_no_sharing (s : Store K B) (k k' : K) (b : B) (hne : k ≠ k') (hk : ∀ p ∈ s, p.1 = k → False) :
    lookup (put s k' b) k = none := by
  unfold lookup put
  rw [List.find?_eq_none.mpr, Option.map_none]
  intro p hp h
  rcases List.mem_cons.mp hp with rfl | hp
  · exact hne (of_decide_eq_true h).symm
  · exact hk p (List.mem_filter.mp hp).1 (of_decide_eq_true h)

/-- the regenerated list of disk-cached operations is the documented one, and the cache is enabled
exactly when FRACTOPO_DISABLE_CACHE is unset or "0" -/
theorem C17_decorated :
    Gen.cache_decorated = ["branches_and_nodes.branches_and_nodes", "contour_grid.run_grid_sampling", "general.crop_to_target_areas",
      "general.determine_general_nodes", "general.determine_node_junctions", "length_distributions.determine_fit"] ∧
    (∀ v : Option String, Gen.cache_enabled v = true ↔ (v = none ∨ v = some "0")) ∧
    Gen.cache_path_variable = "FRACTOPO_CACHE_PATH" := by
  refine ⟨rfl, fun v => ?_, rfl⟩
  simp only [Gen.cache_enabled, List.elem_eq_mem, decide_eq_true_eq, List.mem_cons, List.not_mem_nil, or_false]

/-- **The cached grid sampling never gets the caller's grid itself** (regenerated `run_grid_sampling`, the copy an explicit parameter): with a precursor grid the
body samples INTO `copy_ g` and returns that; the caller's `g` is only read by the copy. So what a call does to the caller's grid cannot depend on whether the body ran
(a miss) or was skipped (a hit): it does nothing either way. -/
theorem C17_grid_sampling_samples_a_copy {L Gr R : Type} (empty_result : R) (is_frame : Option Gr → Bool) (dflt : Gr) (copy_ : Gr → Gr) (isclose0 : Rat → Bool)
    (create_grid_ : Rat → List L → Gr) (sample_ : Gr → R) (traces branches : List L) (w : Rat) (g : Gr) (ht : traces.isEmpty = false) (hf : is_frame (some g) = true) :
    Gen.run_grid_sampling empty_result is_frame dflt copy_ isclose0 create_grid_ sample_ traces branches w (some g) = .ok (sample_ (copy_ g)) ∧
    (∀ g' : Gr, copy_ g' = copy_ g → is_frame (some g') = true →
      Gen.run_grid_sampling empty_result is_frame dflt copy_ isclose0 create_grid_ sample_ traces branches w (some g') = .ok (sample_ (copy_ g))) := by
  have key : ∀ x : Gr, is_frame (some x) = true →
      Gen.run_grid_sampling empty_result is_frame dflt copy_ isclose0 create_grid_ sample_ traces branches w (some x) = .ok (sample_ (copy_ x)) := by
    intro x hx
    unfold Gen.run_grid_sampling
    simp [ht, hx]
  exact ⟨key g hf, fun g' hc hf' => by rw [key g' hf', hc]⟩

example : Gen.run_grid_sampling (0 : Nat) (fun (o : Option Nat) => o.isSome) 0 (fun g => g + 100) (fun _ => false) (fun _ (_ : List Nat) => 0) (fun g => g * 2) [1] [] 1 (some 7) = .ok 214 := by
  decide +kernel

/-- FINDING F10 in the model: a damage that keeps the entry loadable but changes its value
(`LoadLaw` violated) is returned silently -/
example :
    let S : Sys Nat Nat Nat := ⟨fun k => k + 1, id, some⟩
    (run S true [] [.call 1, .damage 1 (fun _ => 99), .call 1]).2 = [some 2, none, some 99] := by decide

end C17
