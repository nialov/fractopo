import FractopoModel.Lemmas.Validation
import FractopoModel.Spec.Validators
import FractopoModel.Generated.ValidatorTable
import FractopoModel.Generated.ValidateStep
import FractopoModel.Lemmas.CropHelpers
import FractopoModel.Generated.ZCoordinates
/-!
# C09 — validation only annotates

For every oracle (any behaviour of the individual validators), every frame, every option set.
Rows are identified by position: the model returns exactly one `(geometry, errors)` pair per
input row, in order (`C09_one_result_per_row`); labels and attribute cells are carried through
positionally by the code (`self.traces.copy()` + two column assignments), which stream S09
checks on the real frames.
-/
namespace C09
open Tval
variable {G : Type}

/-- one result per input row, in order -/
theorem C09_one_result_per_row (O : Oracle G) (cfg : Cfg) (a e : Bool) (frame : List G) (glob : String) (rows : List (G × List String))
    (h : (run O cfg a e frame glob).1 = .validated rows) : rows.length = frame.length := by
  rw [run_validated h, pass_length, List.length_map, pass_length]

/-- **The empty-target-area exit** (the documented exception to the normal procedure): taken exactly when the
frame has rows, `allow_empty_area` is false and no trace meets the area; then every row keeps its geometry and
carries exactly the empty-area error, one result per row, the class attribute untouched. -/
theorem C09_empty_area (O : Oracle G) (cfg : Cfg) (a e : Bool) (frame : List G) (glob : String) :
    ((∃ rows, (run O cfg a e frame glob).1 = .emptyArea rows) ↔ (frame ≠ [] ∧ a = false ∧ e = true)) ∧
    (∀ rows, (run O cfg a e frame glob).1 = .emptyArea rows →
      rows = frame.map (fun g => (g, [cfg.emptyAreaError])) ∧ (run O cfg a e frame glob).2 = glob) := by
  cases frame with
  | nil => simp [run]
  | cons g fr => cases a <;> cases e <;> simp [run]

/-! ### error tuples: duplicate-free and documented -/

/-- the strings a configuration can report: the static `ERROR`s of its validators and whatever a
dynamic validator writes -/
def Documented (O : Oracle G) (vs : List Validator) (err : String) : Prop :=
  (∃ v ∈ vs, v.dynamic = false ∧ err = v.staticError) ∨ (∃ v ∈ vs, ∃ fr g i, err = O.dynErr v fr g i)

/-- what every call of `_validate` keeps true of a row: its errors are duplicate-free and documented -/
structure Inv (O : Oracle G) (vs : List Validator) (s : RowSt G) : Prop where
  nodup : s.errs.Nodup
  doc : ∀ e ∈ s.errs, Documented O vs e

theorem errRead_documented {O : Oracle G} {frame : List G} {idx : Nat} {vs : List Validator} {v : Validator} (hv : v ∈ vs)
    {s : RowSt G} (hfail : O.valid v frame s.geom idx = false) : Documented O vs (errRead O frame idx v s) := by
  rw [errRead_of_fail hfail]
  cases hd : v.dynamic
  · exact .inl ⟨v, hv, hd, rfl⟩
  · exact .inr ⟨v, hv, frame, s.geom, idx, rfl⟩

theorem applyFail_inv {O : Oracle G} {cfg : Cfg} {vs : List Validator} {v : Validator} {s : RowSt G} {glob' err : String}
    (h : Inv O vs s) (hnew : err ∉ s.errs) (hdoc : Documented O vs err) : Inv O vs (applyFail O cfg v s glob' err) := by
  have hnd : (s.errs ++ [err]).Nodup :=
    List.nodup_append.mpr ⟨h.nodup, List.pairwise_singleton _ _, fun a ha b hb hab => hnew (List.mem_singleton.mp hb ▸ hab ▸ ha)⟩
  have hall : ∀ e ∈ s.errs ++ [err], Documented O vs e := fun e he =>
    (List.mem_append.mp he).elim (h.doc e) fun he => List.mem_singleton.mp he ▸ hdoc
  unfold applyFail
  split
  · exact ⟨hnd.erase _, fun e he => hall e (List.mem_of_mem_erase he)⟩
  · exact ⟨hnd, hall⟩

theorem validateRow_inv (O : Oracle G) (cfg : Cfg) (frame : List G) (idx : Nat) (vs : List Validator) (s : RowSt G) (h : Inv O vs s) :
    Inv O vs (validateRow O cfg frame idx vs s) :=
  validateRow_preserves (fun _ hv _ h => validateOne_cases ⟨h.nodup, h.doc⟩
    (fun hfail hnew => applyFail_inv h hnew (errRead_documented hv hfail)) ⟨h.nodup, h.doc⟩) h

/-- **Error tuples.** Every reported tuple is duplicate-free and consists only of the documented
strings of the validators that ran (static `ERROR`s, or what the dynamic validator wrote). -/
theorem C09_errors_documented (O : Oracle G) (cfg : Cfg) (a e : Bool) (frame : List G) (glob : String)
    (rows : List (G × List String)) (h : (run O cfg a e frame glob).1 = .validated rows) :
    ∀ r ∈ rows, r.2.Nodup ∧ ∀ err ∈ r.2, Documented O (cfg.chosen.getD cfg.all) err := by
  rw [run_validated h, pass_eq_map ""]
  exact List.forall_mem_map.mpr fun row _ => have h := validateRow_inv O cfg _ row.2 _ ⟨row.1, [], false, ""⟩ ⟨.nil, nofun⟩; ⟨h.nodup, h.doc⟩

/-! ### geometry -/

/-- geometry relation of one step: unchanged, or replaced by what `fix_method` returned with fixing allowed -/
inductive FixedFrom (O : Oracle G) (cfg : Cfg) : G → G → Prop where
  | refl (g : G) : FixedFrom O cfg g g
  | step (g g' g'' : G) (v : Validator) : FixedFrom O cfg g g' → cfg.allowFix = true → O.fix v g' = some g'' → FixedFrom O cfg g g''

theorem validateOne_geom (O : Oracle G) (cfg : Cfg) (frame : List G) (idx : Nat) (v : Validator) (s : RowSt G) (g0 : G)
    (h : FixedFrom O cfg g0 s.geom) : FixedFrom O cfg g0 (validateOne O cfg frame idx v s).geom := by
  refine validateOne_cases (P := fun s => FixedFrom O cfg g0 s.geom) h (fun _ _ => ?_) h
  unfold applyFail
  split
  next g hg =>
    split at hg
    · exact .step g0 s.geom g v h ‹_› hg
    · cases hg
  next => exact h

theorem validateRow_geom (O : Oracle G) (cfg : Cfg) (frame : List G) (idx : Nat) (vs : List Validator) (s : RowSt G) (g0 : G)
    (h : FixedFrom O cfg g0 s.geom) : FixedFrom O cfg g0 (validateRow O cfg frame idx vs s).geom :=
  validateRow_preserves (P := fun s => FixedFrom O cfg g0 s.geom) (fun v _ s h => validateOne_geom O cfg frame idx v s g0 h) h

theorem fixedFrom_noFix {O : Oracle G} {cfg : Cfg} (hf : cfg.allowFix = false) {g g' : G} (h : FixedFrom O cfg g g') : g' = g := by
  induction h with
  | refl => rfl
  | step _ _ _ _ ha _ _ => simp [hf] at ha

theorem pass_noFix (O : Oracle G) (cfg : Cfg) (hf : cfg.allowFix = false) (vs : List Validator) (frame : List G) (glob : String) :
    (pass O cfg vs frame glob).1.map (·.1) = frame := by
  rw [pass_eq_map "", List.map_map]
  exact (List.map_congr_left fun row _ => fixedFrom_noFix hf (validateRow_geom O cfg frame row.2 vs ⟨row.1, [], false, ""⟩ row.1 (.refl _))).trans (List.zipIdx_map_fst 0 frame)

/-- **With fixing disallowed no geometry changes.** -/
theorem C09_no_fix_no_change (O : Oracle G) (cfg : Cfg) (hf : cfg.allowFix = false) (a e : Bool) (frame : List G) (glob : String)
    (rows : List (G × List String)) (h : (run O cfg a e frame glob).1 = .validated rows) : rows.map (·.1) = frame := by
  simp only [run_validated h, pass_noFix O cfg hf]

/-- **Geometries are returned unchanged or as the result of `fix_method`** (with fixing allowed):
row by row, the output geometry is reachable from the input geometry by fix steps only. -/
theorem C09_geometry (O : Oracle G) (cfg : Cfg) (vs : List Validator) (frame : List G) (glob : String) :
    ∀ p ∈ List.zip frame.zipIdx (pass O cfg vs frame glob).1, FixedFrom O cfg p.1.1 p.2.1 := by
  rw [pass_eq_map "", List.zip_eq_zipWith, List.zipWith_map_right, List.zipWith_self]
  exact List.forall_mem_map.mpr fun row _ => validateRow_geom O cfg frame row.2 vs ⟨row.1, [], false, ""⟩ row.1 (.refl _)

/-- `_validate` in closed form, over the bare answers of the validator: the LINESTRING_ONLY gate first; then, for a new error, the fix attempt decides -- a fixed
geometry takes the error back, an unfixed MAJOR error ends the row -/
theorem validate_step_eq (ls isLs isEmpty isMls valid : Bool) (fix : Option G) (err : String) (major : List String) (geom : G) (errs : List String) (allowFix : Bool) :
    Gen.validate_step ls isLs isEmpty isMls valid fix err major geom errs allowFix =
      if ls && (!isLs || isEmpty) then (geom, errs, true)
      else if !valid && !errs.contains err then
        match (if allowFix then fix else none) with
        | some g => (g, (errs ++ [err]).erase err, false)
        | none => (geom, errs ++ [err], major.contains err)
      else (geom, errs, false) := by
  unfold Gen.validate_step
  generalize (ls && (!isLs || isEmpty)) = gate
  cases gate
  · simp only [Bool.false_eq_true, if_false, List.elem_eq_contains]
    generalize (!valid && !errs.contains err) = fails
    cases fails
    · rfl
    · cases allowFix <;> cases fix <;> simp
  · rfl

/-- **The regenerated `Validation._validate` IS the model's step.** `Gen.validate_step` is regenerated from /repo on every
run (the LINESTRING_ONLY gate incl. empty lines, the duplicate-suppressed append, the fix attempt with
`NotImplementedError` folded into an absent result, removal of the error after a successful fix, the MAJOR-error
short-circuit). With the validator's answers plugged in (its verdict, what its `fix_method` returns, its `ERROR` as read after
the call) it returns exactly the geometry, error list and ignore flag of `Tval.validateOne` -- so every theorem of this
file and of C13 about `validateOne` is a statement about the regenerated code. -/
theorem C09_generated_validate_step (O : Oracle G) (cfg : Cfg) (frame : List G) (idx : Nat) (v : Validator) (s : RowSt G) :
    Gen.validate_step v.lsOnly (O.kind s.geom).isLineString (O.kind s.geom == .lineEmpty) (O.kind s.geom == .multi)
        (O.valid v frame s.geom idx) (O.fix v s.geom) (errRead O frame idx v s) cfg.majorErrors s.geom s.errs cfg.allowFix
      = ((validateOne O cfg frame idx v s).geom, (validateOne O cfg frame idx v s).errs, (validateOne O cfg frame idx v s).ignore) := by
  rw [validate_step_eq, validateOne, GKind.gatePass, Bool.not_and, Bool.not_not]
  -- now both sides make the same tests in the same order
  generalize (v.lsOnly && _) = gate
  cases gate
  · generalize (!O.valid v frame s.geom idx && _) = fails
    cases fails
    · rfl
    · unfold applyFail
      generalize (if cfg.allowFix = true then O.fix v s.geom else none) = fixed
      cases fixed <;> rfl
  · rfl

/-- the regenerated validator table (order, error strings, LINESTRING_ONLY flags, which validator
rewrites its ERROR, MAJOR sets) is the documented one -/
theorem C09_validator_table :
    Gen.all_validators = Spec.allValidators.map (fun v => (v.name, v.staticError, v.lsOnly, v.dynamic)) ∧
    Gen.major_validators = Spec.majorValidators.map (fun v => (v.name, v.staticError, v.lsOnly, v.dynamic)) ∧
    Gen.major_errors = Spec.majorErrors ∧
    Gen.underlap_written.Perm Spec.underlapStrings ∧
    Gen.requires_nodes = ["MultiJunctionValidator", "VNodeValidator"] ∧
    Gen.empty_area_error = Spec.emptyAreaError ∧ Gen.empty_area_exit_writes_error = true :=
  ⟨rfl, rfl, rfl, List.perm_append_comm (l₁ := [_]), rfl, rfl, rfl⟩

/-- with the documented validators every reported string is one of the documented strings -/
theorem C09_documented_strings (O : Oracle G) (hdyn : ∀ v fr g i, O.dynErr v fr g i ∈ Spec.underlapStrings)
    (err : String) (h : Documented O Spec.allValidators err) : err ∈ Spec.documentedErrors := by
  have static {v : Validator} (hv : v ∈ Spec.allValidators) : v.staticError ∈ Spec.documentedErrors :=
    List.mem_append_left _ (List.mem_map_of_mem hv)
  rcases h with ⟨v, hv, _, rfl⟩ | ⟨v, _, fr, g, i, rfl⟩
  · exact static hv
  · -- of the strings the dynamic validator writes two are static strings of validators; "OVERLAPPING SNAP" is listed by itself
    have written : ∀ s ∈ Spec.underlapStrings, s ∈ Spec.documentedErrors :=
      List.forall_mem_cons.mpr ⟨static (v := Spec.vUnder) (by simp [Spec.allValidators]),
        List.forall_mem_cons.mpr ⟨List.mem_append_right _ (.head _),
          List.forall_mem_cons.mpr ⟨static (v := Spec.vStack) (by simp [Spec.allValidators]), nofun⟩⟩⟩
    exact written _ (hdyn v fr g i)
example :
    let nullV : Validator := ⟨"null", false, "NULL GEOMETRY", false⟩
    let typeV : Validator := ⟨"type", false, "GEOM TYPE MULTILINESTRING", false⟩
    let simpleV : Validator := ⟨"simple", true, "CUTS ITSELF", false⟩
    -- geometries: 0 = fine line, 1 = mergeable multi (fix -> 0), 2 = unmergeable multi
    let O : Oracle Nat := ⟨fun g => if g = 0 then .line else .multi, fun v _ g _ => if v.name == "type" then g == 0 else true,
      fun _ _ _ _ => "", fun _ g => if g = 1 then some 0 else none⟩
    let cfg : Cfg := ⟨true, ["GEOM TYPE MULTILINESTRING", "NULL GEOMETRY"], [nullV, typeV], [nullV, typeV, simpleV], none, "EMPTY TARGET AREA"⟩
    (run O cfg true false [0, 1, 2] "x").1 = .validated [(0, []), (0, []), (2, ["GEOM TYPE MULTILINESTRING"])] := by
  decide

/-- non-vacuity of `C09_empty_area`: two rows, area void of traces, `allow_empty_area = false` -/
example :
    let O : Oracle Nat := ⟨fun _ => .line, fun _ _ _ _ => true, fun _ _ _ _ => "", fun _ _ => none⟩
    let cfg : Cfg := ⟨true, [], [], [], none, "EMPTY TARGET AREA"⟩
    (run O cfg false true [7, 8] "x") = (.emptyArea [(7, ["EMPTY TARGET AREA"]), (8, ["EMPTY TARGET AREA"])], "x") := by
  intros; rfl

/-- **What "target area void of traces" means** (`is_empty_area`, regenerated): no area row is met by any of the traces its index
window reports. This is the condition under which `run_validation(allow_empty_area=False)` takes the EMPTY TARGET AREA exit
(`C09_empty_area`). -/
theorem C09_generated_is_empty_area {A G : Type} (window : A → List Nat) (meets : G → A → Bool) (area : List A) (traces : List G) :
    Gen.is_empty_area window meets area traces = !(area.any fun a => ((window a).filterMap fun i => traces[i]?).any fun tr => meets tr a) :=
  CropH.generated_is_empty_area window meets area traces

/-! ### z-coordinate removal in front of validation -/

/-- **Removing Z values keeps every row where it was.** The regenerated `remove_z_coordinates_from_geodata` (frame branch; the geometries come from
`.geometry.apply`, which keeps the index labels, and go back by LABEL-ALIGNED column assignment) returns, for EVERY index -- default, permuted, strings,
duplicated labels --, the same rows in the same order with the same labels and data, each geometry replaced by its own 2-D version: no row gets another
row's geometry or a missing one, so verdicts stay with their rows. -/
theorem C09_generated_z_removal {L D G : Type} [BEq L] [LawfulBEq L] (dropz : G → G) (nan : G) (frame : List (L × D × G)) :
    Gen.remove_z_coordinates_from_geodata dropz nan frame = .ok (frame.map fun r => (r.1, r.2.1, dropz r.2.2)) := by
  simp [Gen.remove_z_coordinates_from_geodata, pyAssignAligned_map]

example : Gen.remove_z_coordinates_from_geodata (fun g : Nat => g % 100) 0 [(7, "a", 301), (7, "b", 402), (3, "c", 5)] = .ok [(7, "a", 1), (7, "b", 2), (3, "c", 5)] := by decide

end C09
