import FractopoModel.Model.Subsampling
import FractopoModel.Generated.ParamTable
import FractopoModel.Generated.AggregateDispatch
import FractopoModel.Generated.RandomRadius
import FractopoModel.Generated.Subsampling
import FractopoModel.Generated.RandomSample
import FractopoModel.Lemmas.Loops
import FractopoModel.Lemmas.Prelude
import FractopoModel.Lemmas.Lists
/-!
# C20 — subsampling keeps every sample, aggregates as declared, samples inside target
-/
namespace C20
open Subs
variable {α : Type}

/-- `insertAcc` extends the group of `k` where it stands, or appends a new group when there is none -/
theorem insertAcc_eq (k : String) (v : α) (g : List (String × List α)) :
    (∃ l vs r, g = l ++ (k, vs) :: r ∧ insertAcc k v g = l ++ (k, vs ++ [v]) :: r) ∨
      (k ∉ g.map (·.1) ∧ insertAcc k v g = g ++ [(k, [v])]) := by
  induction g with
  | nil => exact .inr ⟨List.not_mem_nil, rfl⟩
  | cons hd tl ih =>
    obtain ⟨k', vs⟩ := hd
    by_cases h : k' = k
    · subst h; exact .inl ⟨[], vs, tl, rfl, by simp [insertAcc]⟩
    · rcases ih with ⟨l, ws, r, rfl, e⟩ | ⟨hk, e⟩
      · exact .inl ⟨(k', vs) :: l, ws, r, rfl, by simp [insertAcc, h, e]⟩
      · exact .inr ⟨by simp [hk, Ne.symm h], by simp [insertAcc, h, e]⟩

theorem flat_insertAcc (k : String) (v : α) (g : List (String × List α)) : (flat (insertAcc k v g)).Perm (flat g ++ [(k, v)]) := by
  rcases insertAcc_eq k v g with ⟨l, vs, r, rfl, e⟩ | ⟨_, e⟩ <;> rw [e]
  · simp only [flat, List.flatMap_append, List.flatMap_cons, List.map_append, List.map_cons, List.map_nil, List.append_assoc]
    exact (List.perm_append_comm.append_left _).append_left _
  · simp [flat]

theorem group_perm_aux (xs : List (String × α)) (acc : List (String × List α)) :
    (flat (xs.foldl (fun acc (kv : String × α) => insertAcc kv.1 kv.2 acc) acc)).Perm (flat acc ++ xs) := by
  induction xs generalizing acc with
  | nil => simp
  | cons x xs ih =>
    refine (ih _).trans ?_
    simpa using (flat_insertAcc x.1 x.2 acc).append_right xs

/-- Grouping is a partition: the (name, description) pairs of the groups are exactly the input
list as a multiset -- every description appears exactly once, under its own name, whatever the
order (interleaving) of the list. -/
theorem C20_group_partition (xs : List (String × α)) : (flat (group xs)).Perm xs := by
  simpa [group, flat] using group_perm_aux xs []

theorem keys_insertAcc_nodup (k : String) (v : α) (g : List (String × List α)) (h : (g.map (·.1)).Nodup) : ((insertAcc k v g).map (·.1)).Nodup := by
  rcases insertAcc_eq k v g with ⟨l, vs, r, rfl, e⟩ | ⟨hk, e⟩ <;> rw [e]
  · simpa using h
  · simp only [List.map_append, List.map_cons, List.map_nil, List.nodup_append, List.nodup_cons, List.mem_singleton]
    exact ⟨h, ⟨List.not_mem_nil, List.nodup_nil⟩, fun a ha b hb hab => hk (hb ▸ hab ▸ ha)⟩

/-- one group per distinct name -/
theorem C20_group_keys_nodup (xs : List (String × α)) : ((group xs).map (·.1)).Nodup :=
  List.foldlRecOn (motive := fun g => (g.map (·.1)).Nodup) xs _ List.nodup_nil fun acc h x _ => keys_insertAcc_nodup x.1 x.2 acc h

/-- the interleaved list produced by `[s₁ … s_k] * n` (k networks, n samples): nothing is lost -/
example : group [("a", 1), ("b", 2), ("a", 3), ("b", 4)] = [("a", [1, 3]), ("b", [2, 4])] := by decide

/-- the additive parameters of the regenerated table are exactly Area, the four counts and
Circle Count; every other documented parameter is a weighted mean -/
theorem C20_additive_table :
    (Gen.paramAggregator.filter (·.2 == "SUM")).map (·.1) =
      ["Area", "Number of Branches", "Number of Branches (Real)", "Number of Traces", "Number of Traces (Real)", "Circle Count"] ∧
    Gen.paramAggregator.all (fun p => p.2 == "SUM" || p.2 == "MEAN") = true ∧
    Gen.default_aggregator = "MEAN" ∧ Gen.weight_column = "Area" := by
  decide +kernel

def additive : List String :=
  ["Area", "Number of Branches", "Number of Branches (Real)", "Number of Traces", "Number of Traces (Real)", "Circle Count"]

def aggregateGen := aggregate Gen.paramAggregator Gen.default_aggregator Gen.weight_column

/-- a name that is looked up with a result other than the default stands in the table with that result -/
theorem mem_of_lookupAgg {table : List (String × String)} {dflt c a : String} (h : lookupAgg table dflt c = a) (hd : dflt ≠ a) :
    c ∈ (table.filter (·.2 == a)).map (·.1) := by
  unfold lookupAgg at h
  cases hf : table.find? (·.1 == c) with
  | none => rw [hf] at h; exact absurd h hd
  | some p =>
    rw [hf] at h
    have hp := List.find?_some hf
    exact List.mem_map.mpr ⟨p, List.mem_filter.mpr ⟨List.mem_of_find?_eq_some hf, beq_iff_eq.mpr h⟩, beq_iff_eq.mp hp⟩

theorem lookup_additive : ∀ c ∈ additive, lookupAgg Gen.paramAggregator Gen.default_aggregator c = "SUM" := by decide +kernel

theorem lookup_eq_sum_iff (c : String) : lookupAgg Gen.paramAggregator Gen.default_aggregator c = "SUM" ↔ c ∈ additive :=
  ⟨fun h => by have := mem_of_lookupAgg h (by decide); rwa [C20_additive_table.1] at this, lookup_additive c⟩

/-- Aggregation, for every list of chosen samples and every column list: a numeric column is
the plain sum when the parameter is additive and the area-weighted mean otherwise (positive
total area); a column with a non-numeric value falls back to the joined string. -/
theorem C20_aggregate (columns : List String) (rows : List (String → Cell)) (c : String) (hc : c ∈ columns) :
    ∃ a, (c, a) ∈ aggregateGen columns rows ∧
      (match (rows.map (· c)).mapM Cell.num?, (rows.map (· "Area")).mapM Cell.num? with
        | none, _ => a = .fallback
        | some vs, ws =>
          if c ∈ additive then a = .sum vs.sum
          else match ws with
            | none => a = .fallback
            | some ws => if ws.sum = 0 then a = .undefinedMean else a = .mean ((List.zipWith (· * ·) vs ws).sum / ws.sum)) := by
  refine ⟨_, List.mem_map.mpr ⟨c, hc, rfl⟩, ?_⟩
  have hsum : (lookupAgg Gen.paramAggregator Gen.default_aggregator c == "SUM") = decide (c ∈ additive) := by
    rw [Bool.eq_iff_iff, beq_iff_eq, decide_eq_true_iff, lookup_eq_sum_iff]
  simp only [aggColumn, hsum, show Gen.weight_column = "Area" from rfl, decide_eq_true_iff, beq_iff_eq]
  cases (rows.map (· c)).mapM Cell.num? with
  | none => rfl
  | some vs =>
    by_cases hadd : c ∈ additive
    · simp only [hadd, if_true]
    · simp only [hadd, if_false]
      cases (rows.map (· "Area")).mapM Cell.num? with
      | none => rfl
      | some ws => by_cases h0 : ws.sum = 0 <;> simp only [h0, if_true, if_false]

/-! ### the regenerated loops of `group_gathered_subsamples` and `aggregate_chosen` -/

/-- the prelude's `setdefault(k, []).append(v)` is the model's -/
theorem alistAppendTo_eq_insertAcc (k : String) (v : α) (g : List (String × List α)) : alistAppendTo k v g = insertAcc k v g := by
  induction g with
  | nil => rfl
  | cons hd tl ih => simp only [alistAppendTo, insertAcc, ih, beq_iff_eq]

/-- **The regenerated grouping loop IS the model's grouping** (`Subs.group`), hence a partition with one group per
distinct name (`C20_group_partition`, `C20_group_keys_nodup`) whatever the order of the list. -/
theorem C20_generated_group {I : Type} (keyf : I → String) (xs : List I) :
    Gen.group_gathered_subsamples keyf xs = group (xs.map fun i => (keyf i, i)) := by
  unfold Gen.group_gathered_subsamples group
  rw [List.foldl_map]
  exact Loop.fold (fun _ => rfl) (fun i l acc => by rw [← alistAppendTo_eq_insertAcc]; rfl) xs []

/-- the inner loop of `aggregate_chosen` is the table lookup -/
theorem lookup_loop2_eq {C R : Type} (agg : String → List C → List C → Option R) (fb : List C → R) (chosen : List (String → C)) (cols : List String)
    (dflt : String) (c : String) (table : List (String × String)) (cur : String) :
    Gen.aggregate_chosen_loop2 agg fb chosen cols dflt c table cur = lookupAgg table cur c := by
  induction table with
  | nil => rfl
  | cons p rest ih =>
    rw [Gen.aggregate_chosen_loop2, ih, lookupAgg, lookupAgg, List.find?_cons, show (p.1 == c) = (c == p.1) from Bool.beq_comm]
    cases c == p.1 <;> rfl

/-- what the regenerated loop stores for one column -/
def genCell {C R : Type} (agg : String → List C → List C → Option R) (fb : List C → R) (chosen : List (String → C)) (dflt : String) (c : String) : R :=
  match agg (lookupAgg Gen.paramAggregator dflt c) (chosen.map (· c)) (chosen.map (· "Area")) with
  | some v => v
  | none => fb (chosen.map (· c))

/-- **The regenerated aggregation loops**: for duplicate-free columns (dict keys) the result lists, column by column in
order, the aggregator's value -- the aggregator being looked up afresh for EVERY column in the regenerated table
(default otherwise), fed with that column's values and the Area column as weights -- or the fallback when it raises. -/
theorem C20_generated_aggregate {C R : Type} (agg : String → List C → List C → Option R) (fb : List C → R) (chosen : List (String → C))
    (columns : List String) (dflt : String) (hnd : columns.Nodup) :
    Gen.aggregate_chosen agg fb chosen columns dflt = columns.map (fun c => (c, genCell agg fb chosen dflt c)) := by
  have loop : ∀ l acc, Gen.aggregate_chosen_loop1 agg fb chosen columns dflt (chosen.map (· "Area")) l acc
      = l.foldl (fun acc c => alistSet acc c (genCell agg fb chosen dflt c)) acc :=
    Loop.fold (fun _ => rfl) fun c l acc => by rw [Gen.aggregate_chosen_loop1, lookup_loop2_eq]; rfl
  show Gen.aggregate_chosen_loop1 agg fb chosen columns dflt (chosen.map (· "Area")) columns [] = _
  rw [loop, alistSet_foldl_fresh _ _ _ hnd fun _ _ => rfl, List.nil_append]

/-- … instantiated with the documented aggregators (`Subs.aggColumn`: sum / area-weighted mean, raising on non-numeric
values or zero total weight) it is the model's `aggregateGen` up to the string fallback -/
theorem C20_generated_aggregate_model (chosen : List (String → Cell)) (columns : List String) (hnd : columns.Nodup) :
    Gen.aggregate_chosen (fun a vs ws => match aggColumn a vs ws with | .sum q => some (Agg.sum q) | .mean q => some (Agg.mean q) | _ => none)
        (fun _ => Agg.fallback) chosen columns Gen.default_aggregator
      = (aggregateGen columns chosen).map (fun ca => (ca.1, match ca.2 with | .undefinedMean => Agg.fallback | a => a)) := by
  rw [C20_generated_aggregate _ _ _ _ _ hnd]
  simp only [aggregateGen, aggregate, List.map_map]
  apply List.map_congr_left
  intro c _
  simp only [Function.comp, genCell]
  have hwc : Gen.weight_column = "Area" := rfl
  rw [hwc]
  cases aggColumn (lookupAgg Gen.paramAggregator Gen.default_aggregator c) (chosen.map (· c)) (chosen.map (· "Area")) <;> rfl

/-! ### gathering the subsample results -/

/-- **Nothing but the failed samples is lost between sampling and grouping.** The regenerated `gather_subsample_descriptions` returns, in their
order, exactly the results that are not `None` and are dicts: a failed sample anywhere in the list (first, in the middle, several) removes itself and
nothing else.  Together with `C20_generated_group` / `C20_group_partition`: every successful description ends up in exactly one group. -/
theorem C20_generated_gather {D : Type} (is_none is_dict : D → Bool) (rs : List D) :
    Gen.gather_subsample_descriptions is_none is_dict rs = rs.filter (fun r => !is_none r && is_dict r) := by
  show Gen.gather_subsample_descriptions_loop1 is_none is_dict rs rs [] = _
  rw [Loop.filter (f := Gen.gather_subsample_descriptions_loop1 is_none is_dict rs) (p := fun r => !is_none r && is_dict r) (g := id) (fun _ => rfl)
    fun r l acc => by rw [Gen.gather_subsample_descriptions_loop1]; cases is_none r <;> cases is_dict r <;> rfl]
  rw [List.nil_append, List.map_id]

example : Gen.gather_subsample_descriptions (fun (r : Option Nat) => r.isNone) (fun _ => true) [some 1, none, some 2, none, some 3] = [some 1, some 2, some 3] := by decide

/-- random radius lies in [r_min, r_max) for u in [0,1) -/
theorem C20_radius_range (rmin rmax u : Rat) (h : rmin < rmax) (hu0 : 0 ≤ u) (hu1 : u < 1) :
    rmin ≤ Gen.random_radius rmin rmax u ∧ Gen.random_radius rmin rmax u < rmax := by
  have hd : 0 < rmax - rmin := (Rat.lt_iff_sub_pos _ _).mp h
  show rmin ≤ rmin + u * (rmax - rmin) ∧ rmin + u * (rmax - rmin) < rmax
  constructor
  · simpa only [Rat.add_zero] using Rat.add_le_add_left.mpr (Rat.mul_nonneg hu0 (Rat.le_of_lt hd))
  · have := Rat.add_lt_add_left (c := rmin).mpr (Rat.mul_lt_mul_of_pos_right hu1 hd)
    rwa [Rat.one_mul, Rat.add_comm rmin (rmax - rmin), Rat.sub_add_cancel] at this

/-- area mode: the random area lies in [π r_min², π r_max²) -/
theorem C20_area_range (pi rmin rmax u : Rat) (hpi : 0 < pi) (h0 : 0 ≤ rmin) (h : rmin < rmax) (hu0 : 0 ≤ u) (hu1 : u < 1) :
    Gen.calc_circle_area pi rmin ≤ Gen.random_area (Gen.calc_circle_area pi rmin) (Gen.calc_circle_area pi rmax) u ∧
      Gen.random_area (Gen.calc_circle_area pi rmin) (Gen.calc_circle_area pi rmax) u < Gen.calc_circle_area pi rmax :=
  -- the area is drawn exactly as the radius is, from an interval that is nonempty because squaring is monotone
  C20_radius_range _ _ u (Rat.mul_lt_mul_of_pos_left (Rat.mul_self_lt_mul_self h0 h) hpi) hu0 hu1

/-- … hence (for any monotone `sqrt` that inverts squaring on these two values) the radius
derived from it lies in [r_min, r_max] -/
theorem C20_area_mode_radius (pi : Rat) (sqrt : Rat → Rat) (rmin rmax u : Rat) (hpi : 0 < pi) (h0 : 0 ≤ rmin) (h : rmin < rmax)
    (hu0 : 0 ≤ u) (hu1 : u < 1) (mono : ∀ a b, a ≤ b → sqrt a ≤ sqrt b)
    (inv1 : sqrt (Gen.calc_circle_area pi rmin / pi) = rmin) (inv2 : sqrt (Gen.calc_circle_area pi rmax / pi) = rmax) :
    let r := Gen.calc_circle_radius pi sqrt (Gen.random_area (Gen.calc_circle_area pi rmin) (Gen.calc_circle_area pi rmax) u)
    rmin ≤ r ∧ r ≤ rmax := by
  intro r
  obtain ⟨a, b⟩ := C20_area_range pi rmin rmax u hpi h0 h hu0 hu1
  constructor
  · rw [← inv1]; exact mono _ _ (Rat.div_le_div_right a hpi)
  · rw [← inv2]; exact mono _ _ (Rat.div_le_div_right (Rat.le_of_lt b) hpi)

/-- the sample centre is drawn within `R − r` of the target centre (regenerated) -/
theorem C20_centre_buffer (R r : Rat) : Gen.centre_buffer_radius R r = R - r := rfl

/-- … so the sample circle lies inside the target circle: squared-distance form of the
triangle inequality in exact arithmetic -- any point within `r` of a centre that is within
`R − r` of the target centre is within `R` of the target centre (stated with the two
distances `d₁ ≤ R − r`, `d₂ ≤ r` and the triangle inequality `d ≤ d₁ + d₂` as hypothesis). -/
theorem C20_circle_inside (R r d1 d2 d : Rat) (hr : r ≤ R) (h1 : d1 ≤ Gen.centre_buffer_radius R r) (h2 : d2 ≤ r)
    (tri : d ≤ d1 + d2) : d ≤ R := by
  have h : d1 + d2 ≤ R - r + r := Rat.le_trans (Rat.add_le_add_right.mpr h1) (Rat.add_le_add_left.mpr h2)
  rw [Rat.sub_add_cancel] at h
  exact Rat.le_trans tri h

example : (0 : Rat) ≤ 1/2 ∧ (1/2 : Rat) < 1 ∧ Gen.random_radius 1 3 (1/2) = 2 := by decide +kernel

/-- **A sample's network is built from the WHOLE source frame and the random circle (regenerated `random_network_sample`).** Whatever the circle, the frame and
the constructor: the sample holds `Network(source traces, one-row area of the circle — carrying the source CRS when there is one —, truncation on, circular area on)`,
`None` exactly when that constructor raised ValueError; centre and radius are those of the drawn circle, the name the sampler's. No pre-selection of traces, no other
area, no other flags (with truncation on, `C14_generated_network_route` / `C07_generated_crop` say the network's traces are the crop of that frame to that circle). -/
theorem C20_generated_sample {C P Ar Crs N F : Type} (traces : F) (crs : Option Crs) (name : String) (t : Rat) (circle : C × P × Rat)
    (area_frame : C → Ar) (set_crs : Ar → Option Crs → Ar) (network_ : F → Ar → String → Bool → Rat → Bool → Bool → Option N) (det : Bool) :
    Gen.random_network_sample traces crs name t circle area_frame set_crs network_ det
      = (network_ traces (match crs with | none => area_frame circle.1 | some _ => set_crs (area_frame circle.1) crs) name det t true true,
         circle.2.1, circle.2.2, name) := by
  obtain ⟨c, p, r⟩ := circle
  cases crs <;> rfl

/-- non-vacuity: a constructor that records what it was given -/
example : Gen.random_network_sample ([1, 2, 3] : List Nat) (some "EPSG:3067") "s" (1/1000) ("circle", (0 : Int), (5 : Rat)) (fun c => (c, "")) (fun a k => (a.1, k.getD ""))
    (fun f a n d t circ trunc => if trunc && circ then some (f, a, n, d, t) else none) true
    = (some ([1, 2, 3], ("circle", "EPSG:3067"), "s", true, 1/1000), 0, 5, "s") := by rfl

end C20
