import FractopoModel.Lemmas.Dedupe
import FractopoModel.Props.C07
import FractopoModel.Lemmas.SnapLoop
import FractopoModel.Generated.LengthFilters
/-!
# C04 — branches partition the traces

What is proved: the two regenerated length filters are the documented minima (a trace is kept iff
longer than 2.01·t, a branch iff longer than 1.01·t, strictly), so a noded piece longer than the
branch minimum of a clipped trace longer than the trace minimum is never filtered; conservation
of any additive measure through cropping (from C07); counts of pieces (from C01).  That GEOS
noding produces interior-disjoint pieces covering the snapped traces (`NodingLaw`) is outside
the model: stream S04 decides the geometric facts exactly (on-trace, inside, overlap, coverage,
total length) for the implementation's branches.
-/
namespace C04

/-- the documented minima: nothing longer than them is dropped, everything shorter or equal is -/
theorem C04_filters (len t : Rat) :
    (Gen.trace_length_keep len t = true ↔ len > t * (201 / 100)) ∧ (Gen.branch_length_keep len t = true ↔ len > t * (101 / 100)) :=
  ⟨decide_eq_true_iff, decide_eq_true_iff⟩

/-- a piece that survives the branch filter belongs to a trace that survives the trace filter
whenever the piece is part of that trace (piece length ≤ trace length) and exceeds 2.01·t; pieces
between 1.01·t and 2.01·t survive when their trace does -/
theorem C04_cover (piece trace t : Rat) (hle : piece ≤ trace) (hp : piece > t * (101 / 100)) (ht : trace > t * (201 / 100)) :
    Gen.trace_length_keep trace t = true ∧ Gen.branch_length_keep piece t = true := by
  rw [(C04_filters trace t).1, (C04_filters piece t).2]; exact ⟨ht, hp⟩

/-- cropping conserves every additive measure (length) piece by piece -- C07_length restated -/
theorem C04_crop_length {A G : Type} (clip : G → List G) (long : G → Bool) (len : G → Rat) (rows : List (Crop.Row A G)) :
    ((Crop.crop clip long rows).map fun r => len r.geom).sum = (rows.map fun r => (((clip r.geom).filter long).map len).sum).sum :=
  C07.C07_length clip long len rows

/-- **A snapping pass stays within the threshold of the traces as they were before the pass**: the second stage adds to a
trace only ends (of other traces) that were strictly within the threshold of it, and otherwise keeps or drops its vertices;
the first stage moves an end only onto a point strictly within the threshold (`C06_moves_within_threshold`). -/
theorem C04_pass_stays_within_threshold (t : Rat) (eps : List Pt) (another : Polyline) :
    ∀ v ∈ (SnapL.snapToAnother t eps another).1, v ∈ another ∨ (v ∈ eps ∧ SnapL.near t v another = true) := by
  intro v hv
  unfold SnapL.snapToAnother at hv
  simp only [] at hv
  split at hv
  · exact Or.inl hv
  · rcases SnapL.foldl_insert_vertices t _ another v hv with h | h
    · exact Or.inl h
    · have := List.mem_filter.mp h
      exact Or.inr ⟨this.1, (Bool.and_eq_true _ _ ▸ this.2).1⟩

/-- **The bound is per pass, not cumulative (known finding F25)**: for the stacked input `(0 0, 10 0)` with `(5 0.17, 5.1 0.09)`
and threshold 0.1 the snapping loop of the model (both candidate orders) ends after two passes with the first trace bent through
both ends of the second, and the point `(4, 0.136)` of the bent trace is farther than the threshold from BOTH input traces:
"within the snapping tolerance of the input traces" fails for this input. The implementation does the same (corpus witness
F25_dragged_target, stream S04). -/
theorem C04_cumulative_drag_witness :
    let A : Polyline := [⟨0, 0⟩, ⟨10, 0⟩]
    let B : Polyline := [⟨5, 17 / 100⟩, ⟨51 / 10, 9 / 100⟩]
    let t : Rat := 1 / 10
    let bent : Polyline := [⟨0, 0⟩, ⟨5, 17 / 100⟩, ⟨51 / 10, 9 / 100⟩, ⟨10, 0⟩]
    let p : Pt := ⟨4, 17 / 125⟩
    (∀ ord : SnapL.Ord, (match SnapL.snapLoop ord t (20 * t) [] 10 [A, B] with | .ok (ls, n) => ls == [bent, B] && n == 2 | .error _ => false) = true) ∧
    onSeg p ⟨0, 0⟩ ⟨5, 17 / 100⟩ = true ∧ SnapL.near t p A = false ∧ SnapL.near t p B = false := by
  refine ⟨fun ord => ?_, ?_, ?_, ?_⟩
  · cases ord <;> decide +kernel
  all_goals decide +kernel

/-- **The duplicate filter loses nothing but duplicates** (`filter_non_unique_traces`, regenerated; the key of a trace is its WKT
at `int(-log10(snap))` decimals): the result is the first trace of every key in the original order -- a sub-list of the input whose
keys are pairwise different and in which every input trace finds a trace with its key. -/
theorem C04_generated_dedupe {G K : Type} [BEq K] [LawfulBEq K] (key : G → K) (traces : List G) :
    Gen.filter_non_unique_traces key traces = DedupeL.kept key [] traces ∧
    (Gen.filter_non_unique_traces key traces).Sublist traces ∧
    ((Gen.filter_non_unique_traces key traces).map key).Pairwise (· ≠ ·) ∧
    ∀ g ∈ traces, ∃ h ∈ Gen.filter_non_unique_traces key traces, key h = key g := by
  rw [DedupeL.generated_dedupe]
  exact ⟨rfl, DedupeL.kept_sublist key [] traces, DedupeL.kept_keys_nodup key [] traces .nil,
    fun g hg => List.mem_map.mp (DedupeL.kept_covers key [] traces g hg)⟩

example : Gen.branch_length_keep (3 / 200) (1 / 100) = true ∧ Gen.branch_length_keep (1 / 100) (1 / 100) = false := by decide +kernel

end C04
