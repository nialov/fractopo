import FractopoModel.Generated.IsSet
import FractopoModel.Generated.DetermineSet
import FractopoModel.Generated.AzimuthPost
import FractopoModel.Generated.IsAzimuthClose
import FractopoModel.Generated.DefaultAzimuthSets
import FractopoModel.Generated.CalcBins
import FractopoModel.Generated.AzimuthBins
import FractopoModel.Spec.Azimuth
import FractopoModel.Generated.NetworkInit
import FractopoModel.Generated.LineDataCache
import FractopoModel.Lemmas.Prelude
import FractopoModel.Lemmas.Lists
/-!
# C15 — azimuths, set membership, rose bins

`d` below is `degrees(atan2(Δy, Δx)) ∈ (−180, 180]` of the chord, a parameter of the model
(the trigonometry is outside it); the code computes `azimuth_post (90 − d) halved`.
-/
namespace C15

/-- membership of a value in a closed, possibly wrap-around range (specification) -/
def inRange (v : Rat) (r : Rat × Rat) (loop : Bool) : Prop :=
  (r.1 ≤ v ∧ v ≤ r.2) ∨ (loop = true ∧ r.1 > r.2 ∧ (v ≥ r.1 ∨ v ≤ r.2))

instance (v : Rat) (r : Rat × Rat) (loop : Bool) : Decidable (inRange v r loop) := by
  unfold inRange; infer_instance

theorem pos_180 : (0 : Rat) < 180 := by decide +kernel

/-- On the range that `90 − d` sweeps the halved `azimuth_post` adds one half-turn below 0 and takes one off from 180 on. -/
theorem azimuth_post_halved (x : Rat) (h1 : -180 ≤ x) (h2 : x < 360) :
    Gen.azimuth_post x true = if x < 0 then x + 180 else if x < 180 then x else x - 180 := by
  unfold Gen.azimuth_post; grind

/-- … which is `x mod 180` -/
theorem azimuth_post_eq_mod (x : Rat) (h1 : -180 ≤ x) (h2 : x < 360) :
    Gen.azimuth_post x true = x - 180 * ((x / 180).floor : Rat) := by
  rw [azimuth_post_halved x h1 h2]
  split
  · rw [(Rat.floor_div_eq_iff pos_180 (k := -1)).mpr (by grind)]; grind
  · split
    · rw [(Rat.floor_div_eq_iff pos_180 (k := 0)).mpr (by grind)]; grind
    · rw [(Rat.floor_div_eq_iff pos_180 (k := 1)).mpr (by grind)]; grind

theorem azimuth_arg_range (d : Rat) (h1 : -180 < d) (h2 : d ≤ 180) : -180 ≤ 90 - d ∧ 90 - d < 360 := by grind

/-- the azimuth is in [0,180) and is the clockwise angle from north (90 − d) modulo 180 -/
theorem C15_azimuth_range (d : Rat) (h1 : -180 < d) (h2 : d ≤ 180) :
    0 ≤ Gen.azimuth_post (90 - d) true ∧ Gen.azimuth_post (90 - d) true < 180 ∧
      (Gen.azimuth_post (90 - d) true = 90 - d ∨ Gen.azimuth_post (90 - d) true = 90 - d + 180 ∨
        Gen.azimuth_post (90 - d) true = 90 - d - 180) := by
  obtain ⟨hlo, hhi⟩ := azimuth_arg_range d h1 h2
  rw [azimuth_post_halved _ hlo hhi]
  split
  · grind
  · split <;> grind

/-- … and equals the specified reduction `(90 − d) mod 180` -/
theorem C15_azimuth_eq_spec (d : Rat) (h1 : -180 < d) (h2 : d ≤ 180) :
    Gen.azimuth_post (90 - d) true = Spec.azimuthMod d := by
  obtain ⟨hlo, hhi⟩ := azimuth_arg_range d h1 h2
  exact azimuth_post_eq_mod _ hlo hhi

/-- without halving only a negative angle is changed, by a full turn -/
theorem azimuth_post_full (x : Rat) (h : x ≤ 360) : Gen.azimuth_post x false = if x < 0 then x + 360 else x := by
  unfold Gen.azimuth_post; grind

/-- full-circle variant: in [0,360] -/
theorem C15_azimuth_range_full (d : Rat) (h1 : -180 < d) (h2 : d ≤ 180) :
    0 ≤ Gen.azimuth_post (90 - d) false ∧ Gen.azimuth_post (90 - d) false ≤ 360 := by
  rw [azimuth_post_full _ (Rat.le_of_lt (azimuth_arg_range d h1 h2).2)]
  split <;> grind

/-- the reversed line (`atan2(−y,−x) = atan2(y,x) ± 180`) has the same azimuth -/
theorem C15_reversal (d : Rat) (h1 : -180 < d) (h2 : d ≤ 180) :
    Gen.azimuth_post (90 - (if d ≤ 0 then d + 180 else d - 180)) true = Gen.azimuth_post (90 - d) true := by
  -- both arguments are in the range of the closed form and differ by 180
  grind [azimuth_post_halved]

/-- exactly axis-parallel chords: north/south ↦ 0, east/west ↦ 90 -/
theorem C15_axis_parallel :
    Gen.azimuth_post (90 - 90) true = 0 ∧ Gen.azimuth_post (90 - (-90)) true = 0 ∧
      Gen.azimuth_post (90 - 0) true = 90 ∧ Gen.azimuth_post (90 - 180) true = 90 := by
  decide +kernel

/-- `is_set` is membership in the closed, possibly wrap-around range -/
theorem C15_is_set_spec (v lo hi : Rat) (b : Bool) :
    Gen.is_set v (lo, hi) b = decide (inRange v (lo, hi) b) := by
  unfold Gen.is_set inRange; grind

theorem inRangeB_iff (v : Rat) (r : Rat × Rat) (b : Bool) : Spec.inRangeB v r b = decide (inRange v r b) := by
  unfold Spec.inRangeB inRange; grind

/-- names of the ranges containing `v` (specification of the candidate list) -/
def containing (v : Rat) (loop : Bool) : List String → List (Rat × Rat) → List String
  | n :: ns, r :: rs => if inRange v r loop then n :: containing v loop ns rs else containing v loop ns rs
  | _, _ => []

/-- the candidate list of `determine_set`, written as there (so that it rewrites the unfolded function) -/
theorem possible_eq_containing (v : Rat) (loop : Bool) (names : List String) (ranges : List (Rat × Rat)) :
    (List.map (fun (set_name, _) => set_name)
      (List.filter (fun (_, value_range) => Gen.is_set v value_range loop) (List.zip names ranges)))
      = containing v loop names ranges := by
  induction names generalizing ranges with
  | nil => simp [containing]
  | cons n ns ih =>
    cases ranges with
    | nil => simp [containing]
    | cons r rs =>
      obtain ⟨lo, hi⟩ := r
      simp only [List.zip_cons_cons, List.filter_cons, containing, C15_is_set_spec]
      by_cases h : inRange v (lo, hi) loop <;> simp [h, ih]

/-- With ranges of which at most one contains the value (in particular: pairwise
non-overlapping ranges), set assignment never raises and returns the unique containing set,
or the null set when there is none. -/
theorem C15_set_unique (v : Rat) (loop : Bool) (names : List String) (ranges : List (Rat × Rat))
    (h : (containing v loop names ranges).length ≤ 1) :
    Gen.determine_set v ranges names loop =
      .ok (match containing v loop names ranges with | [] => "-1" | n :: _ => n) := by
  rw [Gen.determine_set, possible_eq_containing]
  match hc : containing v loop names ranges with
  | [] => simp
  | [n] => simp
  | a :: b :: rest => rw [hc] at h; simp at h

theorem containing_eq_nil (v : Rat) (loop : Bool) (names : List String) (ranges : List (Rat × Rat))
    (h : ∀ r ∈ ranges, ¬ inRange v r loop) : containing v loop names ranges = [] := by
  fun_induction containing v loop names ranges with
  | case1 n ns r rs hin ih => exact absurd hin (h r List.mem_cons_self)
  | case2 n ns r rs hin ih => exact ih fun s hs => h s (List.mem_cons_of_mem _ hs)
  | case3 => rfl

theorem containing_le_one (v : Rat) (loop : Bool) (names : List String) (ranges : List (Rat × Rat))
    (hd : ranges.Pairwise (fun r s => ¬ (inRange v r loop ∧ inRange v s loop))) :
    (containing v loop names ranges).length ≤ 1 := by
  fun_induction containing v loop names ranges with
  | case1 n ns r rs hin ih =>
    rw [containing_eq_nil v loop ns rs fun s hs hs' => (List.pairwise_cons.mp hd).1 s hs ⟨hin, hs'⟩]; exact Nat.le_refl 1
  | case2 n ns r rs hin ih => exact ih (List.pairwise_cons.mp hd).2
  | case3 => exact Nat.zero_le 1

/-- C15 for pairwise non-overlapping ranges (the statement of the property) -/
theorem C15_set_nonoverlapping (v : Rat) (loop : Bool) (names : List String) (ranges : List (Rat × Rat))
    (hd : ranges.Pairwise (fun r s => ¬ (inRange v r loop ∧ inRange v s loop))) :
    ∃ s, Gen.determine_set v ranges names loop = .ok s :=
  ⟨_, C15_set_unique v loop names ranges (containing_le_one v loop names ranges hd)⟩

/-- FINDING F4: the package's DEFAULT ranges share their end values; a line at exactly 60
(or 120) degrees makes set assignment raise. -/
theorem C15_F4_default_ranges_witness :
    Gen.determine_set 60 Gen.default_azimuth_set_ranges Gen.default_azimuth_set_names true = .error "ValueError" ∧
    Gen.determine_set 120 Gen.default_azimuth_set_ranges Gen.default_azimuth_set_names true = .error "ValueError" := by
  decide +kernel

/-- … and that is the only way the default ranges fail: every other azimuth in [0,180] is
assigned to exactly one of the three sets -/
theorem C15_default_partial (v : Rat) (h0 : 0 ≤ v) (h1 : v ≤ 180) (h60 : v ≠ 60) (h120 : v ≠ 120) :
    Gen.determine_set v [(0, 60), (60, 120), (120, 180)] ["1", "2", "3"] true =
      .ok (if v < 60 then "1" else if v < 120 then "2" else "3") := by
  have e : containing v true ["1", "2", "3"] [(0, 60), (60, 120), (120, 180)] = [if v < 60 then "1" else if v < 120 then "2" else "3"] := by
    simp only [containing, inRange]
    grind
  rw [C15_set_unique _ _ _ _ (by rw [e]; exact Nat.le_refl 1), e]

theorem C15_default_ranges_are_those : Gen.default_azimuth_set_ranges = [(0, 60), (60, 120), (120, 180)] ∧
    Gen.default_azimuth_set_names = ["1", "2", "3"] := ⟨rfl, rfl⟩

/-! ## rose bins (exact arithmetic; the floating-point edge count is swept by stream S15) -/

/-- the edges for `n` bins over `[0, m]` (`m` = 180 for axial data): `0, bw, 2bw, …, n·bw = m` with `bw = m/n` -/
theorem bin_edges (m : Rat) (hm : 0 < m) (n : Int) (hn : 0 < n) :
    let bw : Rat := m / (n : Rat)
    let edges := pyArange 0 (m + bw * (1/100)) bw
    edges.length = n.toNat + 1 ∧ (∀ i, i ≤ n.toNat → edges[i]? = some ((i : Rat) * bw)) ∧ edges[n.toNat]? = some m := by
  intro bw edges
  have hn' : (n : Rat) ≠ 0 := Rat.intCast_ne_zero_of_pos hn
  have hcount : ((m + bw * (1/100) - 0) / bw).ceil.toNat = n.toNat + 1 := by
    -- the stop value `m + bw/100` is chosen so that `m` itself is an edge: the quotient is `n + 1/100`
    have hm' : m ≠ 0 := Rat.ne_of_gt hm
    have e : (m + bw * (1/100) - 0) / bw = (1/100 : Rat) + (n : Rat) := by grind
    have : (1/100 : Rat).ceil = 1 := by decide +kernel
    rw [e, Rat.ceil_add_intCast]; omega
  have hget : ∀ i, i ≤ n.toNat → edges[i]? = some ((i : Rat) * bw) := fun i hi =>
    (pyArange_getElem? (by rw [hcount]; omega)).trans (congrArg some (Rat.zero_add _))
  refine ⟨(pyArange_length ..).trans hcount, hget, ?_⟩
  rw [hget _ (Nat.le_refl _), Rat.natCast_toNat (Int.le_of_lt hn), Rat.mul_comm]
  exact congrArg some (Rat.div_mul_cancel hn')

/-- For every positive ideal bin width the bins cover [0,180] with equal widths: with
`n = ⌈180/w⌉ ≥ 1` bins of width `180/n` the edges are `0, bw, 2bw, …, n·bw = 180`. -/
theorem C15_bins (w : Rat) (hw : 0 < w) :
    let n := (180 / w).ceil
    let r := Gen.calc_bins w true
    0 < n ∧ r.2 = 180 / (n : Rat) ∧ r.1.length = n.toNat + 1 ∧
      (∀ i, i ≤ n.toNat → r.1[i]? = some ((i : Rat) * r.2)) ∧ r.1[n.toNat]? = some 180 := by
  intro n r
  have hn : 0 < n := Rat.ceil_pos (Rat.div_pos pos_180 hw)
  exact ⟨hn, rfl, bin_edges 180 pos_180 n hn⟩

/-- the bar locations are the bin centres `bw/2 + i·bw`, one per bin -/
theorem C15_locs (n : Int) (hn : 0 < n) :
    (Gen.calc_locs (180 / (n : Rat)) true).length = n.toNat ∧
      ∀ i, i < n.toNat → (Gen.calc_locs (180 / (n : Rat)) true)[i]? = some (180 / (n : Rat) / 2 + (i : Rat) * (180 / (n : Rat))) := by
  have hn' : (n : Rat) ≠ 0 := Rat.intCast_ne_zero_of_pos hn
  have e : ((180 + 180 / (n : Rat) / 2 - 180 / (n : Rat) / 2) / (180 / (n : Rat))).ceil = n := by
    have : (180 + 180 / (n : Rat) / 2 - 180 / (n : Rat) / 2) / (180 / (n : Rat)) = (n : Rat) := by grind
    rw [this, Rat.ceil_intCast]
  exact ⟨(pyArange_length ..).trans (congrArg Int.toNat e), fun i hi => pyArange_getElem? (stop := 180 + 180 / (n : Rat) / 2) (by rw [e]; exact hi)⟩

/-! ## histogram (regenerated `determine_azimuth_bins`): every weight lands in exactly one bin -/

theorem hist_cons (v w : Rat) (ps : List (Rat × Rat)) (bins : List (Rat × Rat × Bool)) :
    (bins.map (pyBinSum ((v, w) :: ps))).sum
      = w * ((bins.countP (pyInBin v) : Nat) : Rat) + (bins.map (pyBinSum ps)).sum := by
  induction bins with
  | nil => simp [Rat.add_zero]
  | cons b bs ih =>
    simp only [List.map_cons, List.sum_cons, List.countP_cons, pyBinSum_cons]
    rw [ih]
    cases h : pyInBin v b <;> simp [Rat.mul_add] <;> ac_rfl

/-- the number of bins that hold a value not beyond the last edge: one from the first edge on, none below it -/
theorem countP_pyInBin (v a : Rat) (l : List Rat) (hne : l ≠ []) (h : List.Pairwise (· < ·) (a :: l)) (hhi : v ≤ (a :: l).getLast (by simp)) :
    (pyHistBins (a :: l)).countP (pyInBin v) = if a ≤ v then 1 else 0 := by
  induction l generalizing a with
  | nil => exact absurd rfl hne
  | cons x xs ih =>
    obtain ⟨hax, hxs⟩ := List.pairwise_cons.mp h
    rw [pyHistBins_cons_cons, List.countP_cons]
    cases xs with
    | nil => -- the only bin, closed on the right
      simp only [pyHistBins, List.countP_nil, Nat.zero_add, List.isEmpty_nil, pyInBin_closed, show v ≤ x from hhi, and_true]
    | cons y ys =>
      rw [ih x (List.cons_ne_nil y ys) hxs hhi, List.isEmpty_cons]
      by_cases hxv : x ≤ v
      · -- beyond the first bin, which is open on the right
        rw [if_pos hxv, if_pos (Rat.le_trans (Rat.le_of_lt (hax x List.mem_cons_self)) hxv),
          if_neg fun hin => Rat.not_lt.mpr hxv (pyInBin_open.mp hin).2]
      · -- before the second edge: in the first bin, or below all of them
        simp only [if_neg hxv, Nat.zero_add, pyInBin_open, Rat.not_le.mp hxv, and_true]

theorem hist_conserve (ps : List (Rat × Rat)) (a : Rat) (l : List Rat) (hne : l ≠ []) (h : List.Pairwise (· < ·) (a :: l))
    (hin : ∀ p ∈ ps, a ≤ p.1 ∧ p.1 ≤ (a :: l).getLast (by simp)) :
    ((pyHistBins (a :: l)).map (pyBinSum ps)).sum = (ps.map (·.2)).sum := by
  induction ps with
  | nil =>
    show ((pyHistBins (a :: l)).map fun _ => (0 : Rat)).sum = 0
    rw [List.map_const', List.sum_replicate_rat, Rat.mul_zero]
  | cons p ps ih =>
    obtain ⟨v, w⟩ := p
    obtain ⟨hlo, hhi⟩ := hin (v, w) List.mem_cons_self
    rw [hist_cons, countP_pyInBin v a l hne h hhi, if_pos hlo, ih fun p hp => hin p (List.mem_cons_of_mem _ hp)]
    simp

/-- `hist_conserve` for strictly increasing edges given by their first and last element -/
theorem pyHistogram_sum (vals ws edges : List Rat) (lo hi : Rat) (hlen : ws.length = vals.length) (hpw : edges.Pairwise (· < ·)) (hlt : lo < hi)
    (hlo : edges.head? = some lo) (hhi : edges.getLast? = some hi) (hin : ∀ a ∈ vals, lo ≤ a ∧ a ≤ hi) :
    (pyHistogram vals edges ws).sum = ws.sum := by
  obtain ⟨l, rfl⟩ := List.head?_eq_some_iff.mp hlo
  obtain rfl : (lo :: l).getLast (List.cons_ne_nil lo l) = hi := Option.some.inj ((List.getLast?_eq_some_getLast _).symm.trans hhi)
  have hne : l ≠ [] := fun h => by subst h; exact Rat.lt_irrefl hlt
  rw [pyHistogram, hist_conserve _ lo l hne hpw fun p hp => hin p.1 (List.of_mem_zip hp).1, List.map_snd_zip (Nat.le_of_eq hlen)]

theorem calc_bins_histogram (w : Rat) (hw : 0 < w) (az ws : List Rat) (hin : ∀ a ∈ az, 0 ≤ a ∧ a ≤ 180) (hlen : ws.length = az.length) :
    (pyHistogram az (Gen.calc_bins w true).1 ws).sum = ws.sum ∧ (pyHistogram az (Gen.calc_bins w true).1 ws).length = ((180 / w).ceil).toNat := by
  obtain ⟨hn, -, hl, hget, hlast⟩ := C15_bins w hw
  refine ⟨pyHistogram_sum az ws _ 0 180 hlen (pyArange_pairwise _ _ (Rat.div_pos pos_180 (Rat.intCast_pos.mpr hn)))
    pos_180 ?_ ?_ hin, ?_⟩
  · rw [List.head?_eq_getElem?, hget 0 (Nat.zero_le _)]; simp
  · rw [List.getLast?_eq_getElem?, hl]; exact hlast
  · rw [pyHistogram_length, hl]; rfl

/-- **Rose bins conserve the weights (regenerated `determine_azimuth_bins`, all sample sizes, all multipliers).** For every sample of azimuths in `[0, 180]`, whatever
the ideal width the sample size yields (any positive value) and whatever the multiplier: there is one height and one bar location per bin, `⌈180 / w⌉` of them, and the heights
sum to the total of the length weights — to the NUMBER of lines when no lengths are given. (`np.histogram` is the prelude's exact `pyHistogram`: bins `[e_i, e_{i+1})`, the last closed.) -/
theorem C15_generated_bin_heights_sum (ideal_ : Nat → Bool → Rat) (az : List Rat) (len : Option (List Rat)) (m : Rat)
    (hw : 0 < ideal_ az.length true * m) (hin : ∀ a ∈ az, 0 ≤ a ∧ a ≤ 180) (hlen : ∀ l, len = some l → l.length = az.length) :
    let r := Gen.determine_azimuth_bins ideal_ az len m true
    let n := (180 / (ideal_ az.length true * m)).ceil
    r.2.2.sum = (match len with | none => (az.length : Rat) | some l => l.sum) ∧
      r.2.2.length = n.toNat ∧ r.2.1.length = n.toNat ∧ r.1 = 180 / (n : Rat) := by
  intro r n
  obtain ⟨hn, hbw, -⟩ := C15_bins (ideal_ az.length true * m) hw
  have hlocs : (Gen.calc_locs (Gen.calc_bins (ideal_ az.length true * m) true).2 true).length = n.toNat := (C15_locs n hn).1
  cases len with
  | none =>
    have hc := calc_bins_histogram _ hw az (List.replicate az.length 1) hin (by simp)
    rw [List.sum_replicate_rat, Rat.mul_one] at hc
    exact ⟨hc.1, hc.2, hlocs, hbw⟩
  | some ws =>
    have hc := calc_bins_histogram _ hw az ws hin (hlen ws rfl)
    exact ⟨hc.1, hc.2, hlocs, hbw⟩

/-- **The histogram's bin of a value is the specification's floor index.** For uniform edges `i·bw` a value `a ≥ 0` lies in the half-open bin `[i·bw, (i+1)·bw)` of the
prelude's `pyHistogram` exactly when `⌊a / bw⌋ = i` — the index `Spec.binIndex` assigns (the driver's `bins` command, which S15-bins runs against the real
`determine_azimuth_bins`): the regenerated histogram and the hand-written specification bin alike. -/
theorem C15_bin_membership_is_floor_index (bw a : Rat) (hbw : 0 < bw) (h0 : 0 ≤ a) (i : Nat) :
    pyInBin a ((i : Rat) * bw, ((i : Rat) + 1) * bw, false) = true ↔ (a / bw).floor.toNat = i := by
  have hf0 : 0 ≤ (a / bw).floor := Rat.le_floor_iff.mpr (by rw [Rat.intCast_zero]; exact Rat.div_nonneg h0 hbw)
  rw [pyInBin_open, ← Rat.intCast_natCast, ← Rat.floor_div_eq_iff hbw]
  omega

/-- the same, stated with `Spec.binIndex` for azimuths in `[0, 180)` -/
theorem C15_spec_bin_index_is_histogram_bin (w a : Rat) (hbw : 0 < Spec.binWidth w) (h0 : 0 ≤ a) (h1 : a < 180) (i : Nat) :
    Spec.binIndex w a = some i ↔ pyInBin a ((i : Rat) * Spec.binWidth w, ((i : Rat) + 1) * Spec.binWidth w, false) = true := by
  rw [C15_bin_membership_is_floor_index _ _ hbw h0]
  have hn : ¬ (a < 0) := Rat.not_lt.mpr h0
  have hg : ¬ (a > 180) := Rat.not_lt.mpr (Rat.le_of_lt h1)
  have hne : (a == 180) = false := beq_eq_false_iff_ne.mpr (Rat.ne_of_lt h1)
  simp [Spec.binIndex, hn, hg, hne]

/-- non-vacuity: the doctest of `determine_azimuth_bins` (4 azimuths, ideal width 90 / ∛4 ≈ 56.7 → 4 bins of 45°) -/
example : Gen.determine_azimuth_bins (fun _ _ => 567/10) [25, 50, 145, 160] (some [5, 5, 10, 60]) 1 true = (45, [45/2, 135/2, 225/2, 315/2], [5, 5, 0, 70]) := by
  decide +kernel

example : (containing 30 true ["a", "b"] [(160, 40), (50, 100)]).length ≤ 1 := by decide +kernel

/-! ### the column cache of `LineData` (regenerated from its checked shape) -/

/-- **Sets are assigned from the lines' own azimuths.** With neither an azimuth nor an azimuth-set column in the wrapped frame, the regenerated
`LineData.azimuth_set_array` is `determine_set` mapped over the azimuths of the lines' own geometry. -/
theorem C15_linedata_sets (detset : Rat → String) (azimuths : List Rat) (cols : LineCols) (ha : cols.azimuth = none) (hs : cols.azimuth_set = none) :
    (Gen.ld_azimuth_set_array detset azimuths cols).1 = azimuths.map detset := by
  unfold Gen.ld_azimuth_set_array Gen.ld_azimuth_array
  rw [hs, ha]

/-- asking twice gives the same answer (the second time from the stored column) -/
theorem C15_linedata_idempotent (detset : Rat → String) (azimuths : List Rat) (cols : LineCols) :
    (Gen.ld_azimuth_set_array detset azimuths (Gen.ld_azimuth_set_array detset azimuths cols).2).1 = (Gen.ld_azimuth_set_array detset azimuths cols).1 := by
  unfold Gen.ld_azimuth_set_array Gen.ld_azimuth_array
  cases hs : cols.azimuth_set <;> cases ha : cols.azimuth <;> simp [hs]

/-- **Set membership is computed per Network.** In the regenerated `Network.__post_init__` the frame into which a Network writes its azimuth and
azimuth-set columns is a function of the COPY of the caller's frame only; the caller's frame never receives them, so a second Network with other set
ranges on the same caller's frame computes its own sets. (History stream S15-network observes exactly this.) -/
theorem C15_network_sets_from_a_copy {G' A' : Type} (area_is_empty : A' → Bool) (copy_ : List G' → List G') (has_z : List G' → Bool) (drop_z : List G' → List G')
    (crop_ : List G' → A' → Bool → List G') (given : Bool) (traces traces' : List G') (area : A') (truncate circular topo rz : Bool)
    (h : copy_ traces = copy_ traces') :
    Gen.network_init area_is_empty copy_ has_z drop_z crop_ given traces area truncate circular topo rz () () =
      Gen.network_init area_is_empty copy_ has_z drop_z crop_ given traces' area truncate circular topo rz () () := by
  unfold Gen.network_init
  rw [h]

/-- the hypothesis is met by two different caller frames with the same copy, and the frame the Network keeps is then the same -/
example : Gen.network_init (fun (_ : Unit) => false) (fun (l : List Nat) => l.map (· % 10)) (fun _ => false) id (fun l _ _ => l) true [11, 22] () false false false false () ()
    = Gen.network_init (fun (_ : Unit) => false) (fun (l : List Nat) => l.map (· % 10)) (fun _ => false) id (fun l _ _ => l) true [1, 2] () false false false false () () := rfl

end C15
