import FractopoModel.Lemmas.Validation
import FractopoModel.Lemmas.Underlap
import FractopoModel.Lemmas.Lists
import FractopoModel.Generated.ValidationPass
import FractopoModel.Generated.RunValidation
import FractopoModel.Lemmas.ValidationCaches
import FractopoModel.Generated.ValidatorTable
/-!
# C13 — validation is pure and repeatable (history-independence of the orchestration)

`glob` is the process-global class attribute `UnderlappingSnapValidator.ERROR`, the only state
that survives between rows, runs and `Validation` objects.  The theorems hold for every oracle
(every behaviour of the individual validators as functions of frame, geometry and row).
-/
namespace C13
open Tval
variable {G : Type}

def core (s : RowSt G) : G × List String × Bool := (s.geom, s.errs, s.ignore)

/-- **No memory of earlier runs.** Whatever earlier validations (of any frames, by any objects)
left in the process-global class attribute, the errors and geometries computed for a frame are
the same: the outcome does not depend on the incoming value of the global. -/
theorem C13_global_irrelevant (O : Oracle G) (cfg : Cfg) (allowEmptyArea areaEmpty : Bool) (frame : List G)
    (glob glob' : String) :
    (run O cfg allowEmptyArea areaEmpty frame glob).1 = (run O cfg allowEmptyArea areaEmpty frame glob').1 := by
  have hp vs fr gl gl' : (pass O cfg vs fr gl).1 = (pass O cfg vs fr gl').1 :=
    (pass_eq_map "" gl).trans (pass_eq_map "" gl').symm
  rw [run_fst, run_fst, hp _ frame glob glob', hp _ _ (pass O cfg _ frame glob).2 (pass O cfg _ frame glob').2]

/-- a history: a sequence of validations of arbitrary frames with arbitrary options, threaded
through the global -/
def runHistory (O : Oracle G) : List (Cfg × Bool × Bool × List G) → String → String
  | [], glob => glob
  | (cfg, a, e, frame) :: rest, glob => runHistory O rest (run O cfg a e frame glob).2

/-- **History-independence.** After ANY sequence of other validations in the same process, a
frame validates to exactly what it validates to first. -/
theorem C13_history_irrelevant (O : Oracle G) (history : List (Cfg × Bool × Bool × List G))
    (cfg : Cfg) (a e : Bool) (frame : List G) (glob0 : String) :
    (run O cfg a e frame (runHistory O history glob0)).1 = (run O cfg a e frame glob0).1 :=
  C13_global_irrelevant O cfg a e frame _ _

/-- re-running on the same object (same frame, same options): same outcome every time -/
theorem C13_rerun (O : Oracle G) (cfg : Cfg) (a e : Bool) (frame : List G) (glob : String) :
    (run O cfg a e frame (run O cfg a e frame glob).2).1 = (run O cfg a e frame glob).1 :=
  C13_global_irrelevant O cfg a e frame _ _

/-! ### the regenerated two nested loops of `run_validation` -/

/-- the step function handed to the regenerated loops: `Tval.validateOne` with the class attribute pinned to an arbitrary value
(by `Tval.validateOne_glob` its geometry / errors / ignore flag do not depend on that value) -/
def stepOf (O : Oracle G) (cfg : Cfg) (frame : List G) (g0 : String) (v : Validator) (geom : G) (errs : List String) (idx : Nat) : G × List String × Bool :=
  core (validateOne O cfg frame idx v ⟨geom, errs, false, g0⟩)

theorem pass_loop2_eq (O : Oracle G) (cfg : Cfg) (frame : List G) (g0 : String) (isLine : G → Bool) (geoms : List G) (allvs : List Validator) (idx : Nat)
    (vs : List Validator) (s : RowSt G) :
    Gen.validation_pass_loop2 (stepOf O cfg frame g0) isLine geoms allvs idx vs () s.geom s.errs s.ignore = ((), core (validateRow O cfg frame idx vs s)) := by
  induction vs generalizing s with
  | nil => rfl
  | cons v vs ih =>
    rw [Gen.validation_pass_loop2, validateRow]
    split
    · rfl
    · obtain ⟨gl, h⟩ := validateOne_glob O cfg frame idx v s false g0
      rw [ite_self, show stepOf O cfg frame g0 v s.geom s.errs idx = core (validateOne O cfg frame idx v s) from (congrArg core h).trans rfl]
      exact ih _

/-- the row loop in closed form: each row's errors and geometry are those of its own validator loop, with nothing handed from row to row -/
theorem pass_loop1_eq (O : Oracle G) (cfg : Cfg) (frame : List G) (g0 : String) (isLine : G → Bool) (geoms : List G) (vs : List Validator)
    (rows : List (G × Nat)) (ae : List (List String)) (ag : List G) :
    Gen.validation_pass_loop1 (stepOf O cfg frame g0) isLine geoms vs rows ae ag =
      (ae ++ rows.map fun r => (validateRow O cfg frame r.2 vs ⟨r.1, [], false, g0⟩).errs,
       ag ++ rows.map fun r => (validateRow O cfg frame r.2 vs ⟨r.1, [], false, g0⟩).geom) := by
  induction rows generalizing ae ag with
  | nil => simp [Gen.validation_pass_loop1]
  | cons r rest ih =>
    rw [Gen.validation_pass_loop1, pass_loop2_eq O cfg frame g0 isLine geoms vs r.2 vs ⟨r.1, [], false, g0⟩, core]
    simp only [ih, List.map_cons, List.append_assoc, List.singleton_append]

/-- **The regenerated row and validator loops of `run_validation` ARE the model's pass** (`Tval.passRows`): for every row the
validators run in order until one sets the ignore flag (`break`), geometry / errors / flag are handed from one validator to the
next, and the per-row errors and geometries are collected in row order -- with the regenerated `_validate` (`C09_generated_validate_step`)
as the step. The class attribute does not occur: the result is the model's for EVERY value it may hold (`C13_global_irrelevant`). -/
theorem C13_generated_pass (O : Oracle G) (cfg : Cfg) (frame : List G) (g0 glob : String) (isLine : G → Bool) (vs : List Validator) :
    Gen.validation_pass (stepOf O cfg frame g0) isLine frame vs =
      ((pass O cfg vs frame glob).1.map (·.2), (pass O cfg vs frame glob).1.map (·.1)) := by
  rw [Gen.validation_pass, pass_loop1_eq, pass_eq_map g0, List.map_map, List.map_map]
  rfl

/-- **What the only stateful validator does to its class attribute** (regenerated loops of
`UnderlappingSnapValidator.validation_method`, cls.ERROR threaded as a value): a passing call leaves it untouched; a
failing call overwrites it with one of the three documented strings, chosen from the call's own arguments only -- the
value it had before (whatever earlier validations in the process left there) never influences verdict or string. -/
theorem C13_underlap_attribute {L P : Type} (endpoints_of : L → List P) (dist : L → P → Rat) (isUl : L → L → P → Option Bool)
    (overlaps : L → L → Bool) (geom : L) (cands : List L) (t m : Rat) (glob glob' : String) (ok : Bool) (out : String)
    (h : Gen.underlap_validation endpoints_of dist isUl overlaps geom cands t m glob = .ok (ok, out)) :
    (ok = true → out = glob) ∧
    (ok = false → out ∈ ["UNDERLAPPING SNAP", "OVERLAPPING SNAP", "STACKED TRACES"] ∧
      Gen.underlap_validation endpoints_of dist isUl overlaps geom cands t m glob' = .ok (false, out)) ∧
    (ok = true → Gen.underlap_validation endpoints_of dist isUl overlaps geom cands t m glob' = .ok (true, glob')) := by
  rw [Underlap.generated_eq_spec, Underlap.underlapVerdict_eq] at h ⊢
  cases hh : Spec.underlapHit dist t m cands (endpoints_of geom) with
  | none => rw [hh] at h; cases h; exact ⟨fun _ => rfl, nofun, fun _ => rfl⟩
  | some hit =>
    rw [hh] at h
    obtain ⟨rfl, hout⟩ := Underlap.hitResult_ok h
    exact ⟨nofun, fun _ => ⟨hout, h⟩, nofun⟩

/-! ### the frame-level plumbing of `run_validation` (regenerated) -/

/-- how the regenerated function's (tag, rows) result reads as a model outcome -/
def encode : Outcome G → String × List (G × List String)
  | .untouched => ("untouched", [])
  | .emptyArea rows => ("emptyarea", rows)
  | .validated rows => ("validated", rows)

/-- the frame-level plumbing in closed form, for any pass and any recursive call: the error columns dropped at the start are not part of a frame here, so that
loop does nothing -/
theorem run_validation_frame_eq {V : Type} (errc errct : String) (has_col : String → Bool) (major all : List V) (req : V → Bool) (areaEmpty : List G → Bool) (emptyErr : String)
    (pass_ : List V → List G → List (List String) × List G) (recur : List G → String × List (G × List String)) (frame : List G) (first : Bool)
    (chosen : Option (List V)) (allowEmpty : Bool) :
    Gen.run_validation_frame errc errct has_col major all req areaEmpty emptyErr pass_ recur frame first chosen allowEmpty =
      if frame.isEmpty then ("untouched", [])
      else if !allowEmpty && areaEmpty frame then ("emptyarea", frame.map fun g => (g, [emptyErr]))
      else
        let out := pass_ (chosen.getD (if first then major else all)) frame
        if first then recur out.2 else ("validated", out.2.zip out.1) := by
  unfold Gen.run_validation_frame
  simp only [Gen.run_validation_frame_loop1, ite_self, List.decide_length_eq_zero]
  cases frame with
  | nil => rfl
  | cons g fr => cases chosen <;> rfl -- `if choose_validators is not None` around what `getD` does anyway

/-- **The regenerated `run_validation` IS the model's `Tval.run`.** The frame-level plumbing of `run_validation` is regenerated
(`Gen.run_validation_frame`: stale error columns dropped, MAJOR validators in the first pass and ALL in the second unless validators
were chosen, the empty-frame exit, the EMPTY TARGET AREA exit when `allow_empty_area` is off, the pass, the recursive call for the
second pass on the first pass's geometries with `allow_empty_area` back at its default), its row loop is the regenerated
`Gen.validation_pass` with the regenerated `_validate` as the step (`C13_generated_pass`, `C09_generated_validate_step`), and the
recursion is unfolded once (the recursive call passes `first_pass=False`, which never recurses). For every oracle, configuration,
frame and value of the class attribute the result is `Tval.run`'s -- so `C09_one_result_per_row`, `C09_empty_area`,
`C09_errors_documented`, `C13_global_irrelevant`, `C13_history_irrelevant`, `C13_rerun` are theorems about regenerated code. -/
theorem C13_generated_run_validation (O : Oracle G) (cfg : Cfg) (isLine : G → Bool) (g0 glob errc errct : String) (has_col : String → Bool)
    (req : Validator → Bool) (areaEmpty : List G → Bool) (allowEmpty : Bool) (frame : List G) :
    let passG : List Validator → List G → List (List String) × List G := fun vs fr => Gen.validation_pass (stepOf O cfg fr g0) isLine fr vs
    let second : List G → String × List (G × List String) := fun fr =>
      Gen.run_validation_frame errc errct has_col cfg.major cfg.all req areaEmpty cfg.emptyAreaError passG (fun _ => ("untouched", [])) fr false cfg.chosen true
    Gen.run_validation_frame errc errct has_col cfg.major cfg.all req areaEmpty cfg.emptyAreaError passG second frame true cfg.chosen allowEmpty
      = encode (run O cfg allowEmpty (areaEmpty frame) frame glob).1 := by
  intro passG second
  rw [run_validation_frame_eq, run_fst, apply_ite encode, apply_ite encode]
  refine ite_congr rfl (fun _ => rfl) fun hne => ite_congr rfl (fun _ => rfl) fun _ => ?_
  -- the recursive call gets the geometries of the first pass, one per row of `frame`: not an empty frame either
  have h2 : ¬ ((pass O cfg (cfg.chosen.getD cfg.major) frame glob).1.map (·.1)).isEmpty = true := by
    rwa [List.isEmpty_map, List.isEmpty_iff_length_eq_zero, pass_length, ← List.isEmpty_iff_length_eq_zero]
  -- the first pass, then the plumbing of the recursive call
  simp only [second, passG, C13_generated_pass O cfg frame g0 glob, run_validation_frame_eq, ↓reduceIte, h2]
  -- the second pass starts from the class attribute the first one left
  simp only [Bool.false_eq_true, ↓reduceIte, Bool.not_true, Bool.false_and,
    C13_generated_pass O cfg _ g0 (pass O cfg (cfg.chosen.getD cfg.major) frame glob).2, ← List.zip_of_prod rfl rfl]
  rfl

/-! ### the per-object node caches (regenerated from their checked shape) -/

section Caches
open Gen
variable {T GN NS : Type}

/-- `k` consecutive `_validate` calls of one pass -/
def accesses (gen : T → GN) (vn fj : GN → NS) (flag : Bool) (traces : T) : Nat → ValCaches GN NS → List (Option NS × Option NS) × ValCaches GN NS
  | 0, c => ([], c)
  | k + 1, c => let (r, c) := val_access gen vn fj flag traces c; let (rs, c) := accesses gen vn fj flag traces k c; (r :: rs, c)

/-- **The object's node caches cannot go stale across the two passes** (after the repair of F26: every cache is reset where `self.traces` becomes the fixed frame).
In the regenerated cache logic of `Validation` -- caches start empty, are filled at first access from `self.traces` as it is at that moment (the node SETS only while
`determine_validation_nodes` is on, which `run_validation` derives from the validators of the pass), and are reset between the passes --: whatever validators the two passes
run (default or chosen) and whatever the first pass computed, every `_validate` call of the second pass gets the V-node and junction sets of the FIXED frame, or none when no
validator of the pass needs nodes. -/
theorem C13_node_caches_follow_the_fixed_frame (gen : T → GN) (vn fj : GN → NS) (unfixed fixed : T) (k1 k2 : Nat) (flag1 flag2 : Bool) :
    let p1 := accesses gen vn fj flag1 unfixed k1 ({} : ValCaches GN NS)
    let p2 := accesses gen vn fj flag2 fixed k2 (val_between_passes p1.2)
    p2.1 = List.replicate k2 (if flag2 then (some (vn (gen fixed)), some (fj (gen fixed))) else (none, none)) :=
  -- `val_between_passes` resets the caches (it is `{}` whatever the first pass left), so the second pass is a pass from empty caches
  ValCachesL.fresh_pass (fun _ => rfl) (fun _ _ => rfl) k2

/-- with the default validators the first pass (MAJOR validators: none needs nodes) computes nothing and the second (ALL validators) needs the node sets -/
theorem C13_node_caches_follow_the_fixed_frame_default_flags : val_flag requires_nodes (major_validators.map (·.1)) = false ∧ val_flag requires_nodes (all_validators.map (·.1)) = true := ValCachesL.default_flags

/-- non-vacuity: the sets the second pass sees are those of the FIXED frame (frames are numbers, "nodes" their double, the sets ± 1) -/
example : (accesses (fun t : Nat => 2 * t) (· + 1) (· - 1) true 7 2 (val_between_passes (accesses (fun t : Nat => 2 * t) (· + 1) (· - 1) true 5 3 {}).2)).1 = [(some 15, some 13), (some 15, some 13)] := by decide

end Caches

end C13
