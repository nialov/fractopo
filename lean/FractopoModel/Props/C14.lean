import FractopoModel.Generated.NetworkInit
import FractopoModel.Lemmas.Topology
import FractopoModel.Lemmas.Pipeline
import FractopoModel.Generated.DegreeToClass
import FractopoModel.Generated.BranchIdentity
/-!
# C14 — equivalent routes agree; the topology is a fixed point

Every route ends in the same two steps: noding of the (cropped, snapped) traces, then degree
counting.  If two routes produce the same pieces up to order and direction (on valid maps both
produce the pieces of the arrangement: law `NodingSpec`, sampled by stream S14 on all four routes)
their node and branch tables are equal; and re-extraction from the branches, whose noding is the
identity up to order and direction (`NodingIdempotent`), reproduces the tables.
-/
namespace C14
open Topo
variable {P : Type} [DecidableEq P]

/-- Two routes whose noded pieces agree up to order and direction give the same node set, the
same class at every node, and the same label for every branch (in either direction). -/
theorem C14_routes (bs bs' : List (Branch P)) (h : SameUpToOrderDir bs bs')
    (nearB : P → Bool) (close : P → P → Bool) :
    (collect bs').Perm (collect bs) ∧
    (∀ p, nodeClass nearB Gen.degree_to_class bs' p = nodeClass nearB Gen.degree_to_class bs p) ∧
    (∀ br, branchLabel Gen.determine_branch_identity close (collect bs') (nodeClass nearB Gen.degree_to_class bs') br
        = branchLabel Gen.determine_branch_identity close (collect bs) (nodeClass nearB Gen.degree_to_class bs) br) ∧
    (∀ br, branchLabel Gen.determine_branch_identity close (collect bs) (nodeClass nearB Gen.degree_to_class bs) br.rev
        = branchLabel Gen.determine_branch_identity close (collect bs) (nodeClass nearB Gen.degree_to_class bs) br) := by
  have hends := ends_same h
  refine ⟨collect_of_ends_perm hends, nodeClass_of_ends_perm hends _ _, fun br => ?_, branchLabel_rev⟩
  rw [funext (nodeClass_of_ends_perm hends nearB Gen.degree_to_class)]
  exact branchLabel_nodes_perm (collect_of_ends_perm hends) br

/-- Fixed point: extracting again from the produced branches (noding idempotent up to order and
direction) reproduces the node set, every class and every label. -/
theorem C14_fixed_point (bs renoded : List (Branch P)) (idem : SameUpToOrderDir bs renoded)
    (nearB : P → Bool) (close : P → P → Bool) :
    (collect renoded).Perm (collect bs) ∧
    (∀ p, nodeClass nearB Gen.degree_to_class renoded p = nodeClass nearB Gen.degree_to_class bs p) :=
  ⟨(C14_routes bs renoded idem nearB close).1, (C14_routes bs renoded idem nearB close).2.1⟩

/-- counts are functions of the class column: equal node tables give equal counts -/
theorem C14_counts_of_classes (nodes nodes' : List P) (cls cls' : P → String) (hp : nodes'.Perm nodes)
    (hc : ∀ p, cls' p = cls p) (c : String) :
    (nodes'.filter fun p => cls' p == c).length = (nodes.filter fun p => cls p == c).length := by
  have : (fun p => cls' p == c) = (fun p => cls p == c) := by funext p; rw [hc]
  rw [this]; exact (hp.filter _).length_eq

/-! ### the two entry routes of the regenerated `branches_and_nodes` -/

section Routes
variable {G A Pg U N : Type}

/-- **`already_clipped` only decides who crops.** For the regenerated orchestration, with every stage an arbitrary function: calling
it with `already_clipped = True` on traces `X` and with `already_clipped = False` on traces `Y` gives the same result -- branches,
labels, nodes, classes or the same exception -- whenever the prepared trace lists agree, i.e. whenever `X`, deduplicated and
restricted to LineStrings, is what cropping `Y` (deduplicated, LineStrings) to the areas yields. Nothing downstream (snapping,
length filters, noding, tables) looks at the flag. -/
theorem C14_generated_routes (dedupe : List G → List G) (polys_of : A → List Pg) (is_ls : G → Bool) (crop : List G → List A → List G)
    (snap_ : List G → Rat → List Pg → Except String (List G × Bool)) (len : G → Rat) (union_all : List G → U) (u_is_multi u_is_line : U → Bool)
    (u_parts : U → List G) (node_table : List G → List A → Rat → List N × List String) (branch_labels : List G → List N → List String → Rat → List String)
    (X Y : List G) (areas : List A) (t : Rat) (allowed fuel : Nat)
    (h : (dedupe X).filter is_ls = (crop ((dedupe Y).filter is_ls) areas).filter is_ls) :
    Gen.branches_and_nodes dedupe polys_of is_ls crop snap_ len union_all u_is_multi u_is_line u_parts node_table branch_labels X areas t allowed true fuel
      = Gen.branches_and_nodes dedupe polys_of is_ls crop snap_ len union_all u_is_multi u_is_line u_parts node_table branch_labels Y areas t allowed false fuel := by
  rw [Pipeline.generated_pipeline, Pipeline.generated_pipeline]
  have : Pipeline.prepared dedupe is_ls crop X areas true = Pipeline.prepared dedupe is_ls crop Y areas false := by
    simp only [Pipeline.prepared, if_true, Bool.false_eq_true, if_false]; exact h
  rw [this]

/-- the natural instance: handing over the traces one cropped oneself (already deduplicated LineStrings) -/
theorem C14_generated_routes_cropped (dedupe : List G → List G) (polys_of : A → List Pg) (is_ls : G → Bool) (crop : List G → List A → List G)
    (snap_ : List G → Rat → List Pg → Except String (List G × Bool)) (len : G → Rat) (union_all : List G → U) (u_is_multi u_is_line : U → Bool)
    (u_parts : U → List G) (node_table : List G → List A → Rat → List N × List String) (branch_labels : List G → List N → List String → Rat → List String)
    (Y : List G) (areas : List A) (t : Rat) (allowed fuel : Nat)
    (hd : dedupe ((crop ((dedupe Y).filter is_ls) areas).filter is_ls) = (crop ((dedupe Y).filter is_ls) areas).filter is_ls) :
    Gen.branches_and_nodes dedupe polys_of is_ls crop snap_ len union_all u_is_multi u_is_line u_parts node_table branch_labels
        ((crop ((dedupe Y).filter is_ls) areas).filter is_ls) areas t allowed true fuel
      = Gen.branches_and_nodes dedupe polys_of is_ls crop snap_ len union_all u_is_multi u_is_line u_parts node_table branch_labels Y areas t allowed false fuel := by
  apply C14_generated_routes
  rw [hd, List.filter_filter]
  simp

/-- **What the `Network(...)` route hands to `branches_and_nodes`** (`Network.__post_init__` regenerated; the call inside
`assign_branches_nodes` checked argument by argument). With a non-empty area and topology asked for but not given:
* `truncate_traces=True`: the COPY of the traces (z-coordinates dropped on request) are cropped first -- multi-part input refused, an empty crop is a
  ValueError -- and the CROPPED traces go to `branches_and_nodes` with `already_clipped=True`;
* `truncate_traces=False` (not allowed with a circular target area): the traces go in as they are with `already_clipped=False`.
By `C14_generated_routes` the two ways of getting the topology of cropped data therefore agree. -/
theorem C14_generated_network_route {G' A' : Type} (area_is_empty : A' → Bool) (copy_ : List G' → List G') (has_z : List G' → Bool) (drop_z : List G' → List G')
    (crop_ : List G' → A' → Bool → List G') (traces : List G') (area : A') (truncate circular rz : Bool)
    (ha : area_is_empty area = false) (hc : circular = true → truncate = true) :
    Gen.network_init area_is_empty copy_ has_z drop_z crop_ true traces area truncate circular true rz () () =
      (let t0 := if has_z (copy_ traces) && rz then drop_z (copy_ traces) else copy_ traces
       if truncate then
         (if (crop_ t0 area false).length = 0 then .error "ValueError"
          else .ok (crop_ t0 area false, some (some (crop_ t0 area false, true))))
       else .ok (t0, some (some (t0, false)))) := by
  unfold Gen.network_init
  have hz : ∀ x : List G', (if has_z x = true then (if rz = true then drop_z x else x) else x) = if (has_z x && rz) = true then drop_z x else x := by
    intro x; cases has_z x <;> cases rz <;> rfl
  simp only [ha, Bool.false_eq_true, if_false, hz]
  cases circular with
  | true => simp [hc rfl]
  | false => cases truncate <;> simp

end Routes

example : SameUpToOrderDir [(⟨1, 2⟩ : Branch Nat), ⟨2, 3⟩] [⟨3, 2⟩, ⟨1, 2⟩] :=
  ⟨[false, true], rfl, by decide⟩

end C14
