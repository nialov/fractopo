import FractopoModel.Generated.ValidatorMethods
import FractopoModel.Spec.Defects
import FractopoModel.Generated.JunctionShift
import FractopoModel.Generated.ValidatorTable
import FractopoModel.Lemmas.NodeJunctions
import FractopoModel.Lemmas.IntersectionFilter
import FractopoModel.Generated.GeneralNodes
import FractopoModel.Lemmas.ValidationCaches
/-!
# C02 — validation verdicts on crisp configurations

The documented defects are specified exactly in `Spec/Defects.lean` (per trace: the set of
strings it must be reported with); the implementation's verdicts are tied to that specification by
stream S02 (ALL lattice pairs; lattice triples; larger lattice polyline configurations).
What is proved here is the index arithmetic junction detection relies on: after the current
trace's own block of points has been removed from the flattened point list, the regenerated shift
addresses exactly the same point (this was defect F13); and, for the regenerated code, junction marking
as a whole, the filter of intersection points, the node tuples of every row, the crosscut verdict and
the per-object node caches.
-/
namespace C02
variable {α : Type}

/-- the flattened list with the block `[s, s+c)` of the current trace removed -/
def eraseBlock (l : List α) (s c : Nat) : List α := l.take s ++ l.drop (s + c)

/-- on positions the integer arithmetic of the regenerated shift is the natural-number shift of the refinement proof -/
theorem junction_shift_toNat (v s c : Nat) : (Gen.junction_shift v s c).toNat = if v < s then v else v - c := by
  unfold Gen.junction_shift
  simp only [Int.ofNat_lt, decide_eq_true_eq]
  split <;> omega

/-- **Shift correctness.** For every flattened list, every block `[s, s+c)` inside it and every
candidate position `v` outside the block, the regenerated `junction_shift` gives the position of
the same element in the list with the block removed. -/
theorem C02_shift_correct (l : List α) (s c v : Nat) (hs : s + c ≤ l.length) (hout : v < s ∨ s + c ≤ v) :
    (eraseBlock l s c)[(Gen.junction_shift v s c).toNat]? = l[v]? := by
  rw [eraseBlock, junction_shift_toNat]
  exact NodeJunctions.getElem?_shift l hs hout

/-- the shift never leaves the shortened list: positions stay in range -/
theorem C02_shift_in_range (n s c v : Nat) (hs : s + c ≤ n) (hv : v < n) (hout : v < s ∨ s + c ≤ v) :
    (Gen.junction_shift v s c).toNat < n - c := by
  rw [junction_shift_toNat]; split <;> omega

/-- the distance test uses threshold × error multiplier, and the candidate window is ten times that -/
theorem C02_junction_thresholds (t m : Rat) :
    Gen.junction_distance t m = t * m ∧ Gen.junction_window_margin t m = 10 * (t * m) :=
  ⟨rfl, Rat.mul_comm _ _⟩

/-- a trace that takes part in no defect -- it does not cut itself and has neither an overlap, a
shared end nor any point contact pattern with another trace -- is expected to get the empty tuple -/
theorem C02_spec_no_defect (traces : List Polyline) (i : Nat) (l : Polyline) (hl : traces[i]? = some l)
    (h1 : Defects.cutsItself l = false)
    (h2 : ∀ m ∈ (traces.zipIdx.filter fun (x : Polyline × Nat) => x.2 != i).map (·.1),
      Defects.overlaps l m = false ∧ Defects.sharedEnd l m = false ∧ Defects.pointContacts l m = []) :
    Defects.defectsOf traces i = [] := by
  unfold Defects.defectsOf
  simp only [hl, h1]
  generalize (traces.zipIdx.filter fun (x : Polyline × Nat) => x.2 != i).map (·.1) = others at h2 ⊢
  have e1 : others.any (fun m => Defects.overlaps l m) = false := List.any_eq_false.mpr fun m hm => by simp [(h2 m hm).1]
  have e2 : others.any (fun m => !Defects.overlaps l m && Defects.sharedEnd l m) = false :=
    List.any_eq_false.mpr fun m hm => by simp [(h2 m hm).2.1]
  have e3 : others.any (fun m => !Defects.overlaps l m && decide ((Defects.pointContacts l m).length > 2)) = false :=
    List.any_eq_false.mpr fun m hm => by simp [(h2 m hm).2.2]
  have e4 : (others.flatMap fun m => if Defects.overlaps l m then [] else Defects.pointContacts l m) = [] :=
    List.flatMap_eq_nil_iff.mpr fun m hm => by simp [(h2 m hm).2.2]
  simp [e1, e2, e3, e4]

/-! ### junction marking as a whole (regenerated loops of `determine_node_junctions`) -/

/-- **V NODE / MULTI JUNCTION marking is the documented one.** The regenerated `determine_node_junctions` -- both loops, the removal
of the current trace's own block from the flattened point series, the index shift (the site of defect F13), `.iloc`, the distance
mask, the error threshold, the marking of the trace and of the owners of the close points -- marks trace `k` exactly when the
specification `Spec.junctionMarks` does: some point has at least `max threshold 1` points of OTHER traces strictly within
`t·m`, and `k` owns that point or one of those points. For every list of node tuples (any number of traces, empty tuples
included), any thresholds, any distance function; the spatial-index query only has to return duplicate-free positions that
include every position within `t·m` (`QueryLaw`), in any order, with any extras. -/
theorem C02_generated_junctions {P : Type} (query : P → Rat → List Nat) (dist : P → P → Rat) (nodes : List (List P)) (t m : Rat) (thr : Nat)
    (hq : NodeJunctions.QueryLaw query dist (NodeJunctions.flat nodes) (t * m) (t * m * 10)) (k : Nat) :
    k ∈ Gen.determine_node_junctions query dist nodes t m thr ↔
      k ∈ Spec.junctionMarks dist (NodeJunctions.ownersFrom 0 nodes) (NodeJunctions.flat nodes) (t * m) thr := by
  rw [NodeJunctions.generated_mem, NodeJunctions.mem_marks]
  exact exists_congr fun y => and_congr_right fun _ => NodeJunctions.Marks.perm (NodeJunctions.kept_perm_hits (hq y.1).1 (hq y.1).2 rfl)

/-- V NODE is junction marking of the trace ENDS with threshold 1, MULTI JUNCTION of ALL nodes with threshold 2 (regenerated) -/
theorem C02_junction_callers : Gen.vnode_error_threshold = 1 ∧ Gen.junction_error_threshold = 2 := by decide

/-- a trace none of whose points has a point of another trace within `t·m` is not marked by its own points, and no point
fires at all when all traces are farther than `t·m` apart: nothing is marked (no false positive on crisp, separated maps) -/
theorem C02_no_marks_when_separated {P : Type} (dist : P → P → Rat) (o : List Nat) (f : List P) (d : Rat) (thr : Nat)
    (hsep : ∀ a b x y, f[a]? = some x → f[b]? = some y → o.getD b 0 ≠ o.getD a 0 → ¬ dist y x < d) :
    Spec.junctionMarks dist o f d thr = [] := by
  refine List.eq_nil_iff_forall_not_mem.mpr fun k hk => ?_
  -- a mark needs a point with a hit, and a hit is a pair that `hsep` excludes
  obtain ⟨⟨pt, a⟩, hmem, ⟨-, hne⟩, -⟩ := (NodeJunctions.mem_marks dist o f d thr k).mp hk
  obtain ⟨b, hb⟩ := List.exists_mem_of_length_pos (Nat.pos_of_ne_zero hne)
  obtain ⟨y, hy, hne, hd⟩ := (NodeJunctions.mem_hits dist o f d a pt b).mp hb
  exact hsep a b pt y (List.mem_zipIdx_iff_getElem?.mp hmem) hy hne hd

/-- **Which intersection points count as intersections.** The regenerated `determine_valid_intersection_points_no_vnode` (four nested
loops, flags switched off in place) keeps an intersection point of the trace exactly when it is NOT close to an end of the trace
that coincides with an end of some candidate -- every such point is dropped, whatever the order of candidates, ends and points
and however many of them there are (a shared end is a V-node and is judged from the end points; a third trace through that
point still has its own intersection there). -/
theorem C02_generated_intersection_filter {L P : Type} (inter : List P) (ends_of : L → List P) (close : P → P → Bool) (cands : List L) (geom : L) :
    Gen.intersection_points_no_vnode inter ends_of close cands geom =
      inter.filter fun p => !((IntersectionFilter.activeEnds ends_of close cands geom).any fun ge => close ge p) :=
  IntersectionFilter.generated_eq_spec inter ends_of close cands geom

/-- the node tuples of one row: the intersection points that are not V-nodes (by `C02_generated_intersection_filter`) and the ends that are
not within the tolerance of such an intersection point; nothing for a row that is not a non-empty LineString -/
def rowNodes {G P : Type} (is_line is_ls : G → Bool) (bboxq : Nat → G → List Nat) (inter0 : List G → G → List P) (ends_of : G → List P)
    (close4 close3 : P → P → Bool) (geoms : List G) (gi : G × Nat) : List P × List P :=
  if !is_line gi.1 then ([], [])
  else
    let cands := (((bboxq gi.2 gi.1).erase gi.2).filterMap fun i => geoms[i]?).filter is_ls
    let inter := (inter0 cands gi.1).filter fun p => !((IntersectionFilter.activeEnds ends_of close4 cands gi.1).any fun ge => close4 ge p)
    (inter, (ends_of gi.1).filter fun e => !(inter.any fun ig => close3 e ig))

theorem general_nodes_loop1_eq {G P : Type} (is_line is_ls : G → Bool) (bboxq : Nat → G → List Nat) (inter0 : List G → G → List P) (ends_of : G → List P)
    (close4 close3 : P → P → Bool) (geoms : List G) (l : List (G × Nat)) (a b : List (List P)) :
    Gen.general_nodes_loop1 is_line is_ls bboxq inter0 ends_of close4 close3 geoms () l a b =
      (a ++ l.map (fun gi => (rowNodes is_line is_ls bboxq inter0 ends_of close4 close3 geoms gi).1),
       b ++ l.map (fun gi => (rowNodes is_line is_ls bboxq inter0 ends_of close4 close3 geoms gi).2)) := by
  induction l generalizing a b with
  | nil => simp [Gen.general_nodes_loop1]
  | cons gi rest ih =>
    obtain ⟨g, i⟩ := gi
    -- both branches of the body append one tuple to each list, the pair `rowNodes` names
    rw [Gen.general_nodes_loop1]
    simp only [ih, C02_generated_intersection_filter, List.map_cons, List.append_assoc, List.singleton_append, rowNodes]
    cases is_line g <;> rfl

/-- **One node-tuple pair per row, in row order, each computed from that row's own candidates.** The regenerated loop of
`determine_general_nodes` yields for every row exactly `rowNodes` -- a row that is not a non-empty LineString gets empty tuples and
does not disturb the positions of the others (the trace index = tuple index convention of junction marking relies on this) -/
theorem C02_generated_general_nodes {G P : Type} (is_line is_ls : G → Bool) (bboxq : Nat → G → List Nat) (inter0 : List G → G → List P) (ends_of : G → List P)
    (close4 close3 : P → P → Bool) (geoms : List G) :
    Gen.general_nodes is_line is_ls bboxq inter0 ends_of close4 close3 geoms =
      (geoms.zipIdx.map (fun gi => (rowNodes is_line is_ls bboxq inter0 ends_of close4 close3 geoms gi).1),
       geoms.zipIdx.map (fun gi => (rowNodes is_line is_ls bboxq inter0 ends_of close4 close3 geoms gi).2)) := by
  unfold Gen.general_nodes
  simp only [general_nodes_loop1_eq]
  simp

/-- non-vacuity: the trace (ends 0, 9) shares end 0 with a candidate (ends 0, 5); of its intersection points 0, 0 and 4 both copies
of 0 are dropped -/
example : Gen.intersection_points_no_vnode [0, 0, 4] (fun (l : Nat × Nat) => [l.1, l.2]) (fun (a b : Nat) => a == b) [(0, 5), (7, 8)] (0, 9) = [4] := by
  decide

/-- non-vacuity: traces 0 and 1 share an end (distance 0), trace 2 is far: with threshold 1 the first two are marked -/
example :
    Gen.determine_node_junctions (fun (_ : Nat) _ => [0, 1, 2, 3, 4, 5]) (fun (p q : Nat) => if p = q then 0 else 5)
      [[10, 11], [11, 12], [20, 21]] (1 / 100) (11 / 10) 1 = [0, 1] := by decide +kernel

example : Gen.junction_shift 5 2 2 = 3 ∧ Gen.junction_shift 1 2 2 = 1 := by decide

/-- **MULTIPLE CROSSCUTS and CUTS ITSELF** (`MultipleCrosscutValidator.validation_method`, `SimpleGeometryValidator.validation_method`,
regenerated): a trace is reported MULTIPLE CROSSCUTS iff some candidate meets it at all and some candidate's intersection with it is a
MultiPoint of more than two points; CUTS ITSELF iff it is not simple or is a ring. -/
theorem C02_generated_crosscut {L : Type} (meets : L → L → Bool) (ip : L → L → Option Nat) (geom : L) (cands : List L) (simple ring : Bool) :
    Gen.crosscut_validation meets ip geom cands =
      (!(cands.any fun tc => meets tc geom) || !(cands.any fun tc => match ip tc geom with | some n => decide (n > 2) | none => false)) ∧
    Gen.simple_geometry_validation simple ring = (simple && !ring) := by
  constructor
  · unfold Gen.crosscut_validation
    simp only [List.any_map, Function.comp_def]
    cases cands.any (fun tc => meets tc geom)
    · simp
    · simp only [Bool.not_true, Bool.false_eq_true, if_false, Bool.false_or]
      congr 2
  · rfl

/-! ### the per-object node caches (regenerated from their checked shape) -/

section Caches
open Gen
variable {T GN NS : Type}

/-- `k` consecutive `_validate` calls of one pass -/
def accesses (gen : T → GN) (vn fj : GN → NS) (flag : Bool) (traces : T) : Nat → ValCaches GN NS → List (Option NS × Option NS) × ValCaches GN NS
  | 0, c => ([], c)
  | k + 1, c => let (r, c) := val_access gen vn fj flag traces c; let (rs, c) := accesses gen vn fj flag traces k c; (r :: rs, c)

/-- **V NODE and MULTI JUNCTION are judged on the fixed traces** (after the repair of F26). The sets `vnodes` / `faulty_junctions` that `_validate` hands to the two node
validators are, in every call of the second pass, those computed from the frame AFTER the first pass fixed what it could (merged multi-part lines included) -- for the default
validators and for every chosen subset, whatever the first pass had cached. -/
theorem C02_node_sets_from_fixed_traces (gen : T → GN) (vn fj : GN → NS) (unfixed fixed : T) (k1 k2 : Nat) (flag1 flag2 : Bool) :
    let p1 := accesses gen vn fj flag1 unfixed k1 ({} : ValCaches GN NS)
    let p2 := accesses gen vn fj flag2 fixed k2 (val_between_passes p1.2)
    p2.1 = List.replicate k2 (if flag2 then (some (vn (gen fixed)), some (fj (gen fixed))) else (none, none)) :=
  -- `val_between_passes` resets the caches (it is `{}` whatever the first pass left), so the second pass is a pass from empty caches
  ValCachesL.fresh_pass (fun _ => rfl) (fun _ _ => rfl) k2

/-- with the default validators the first pass (MAJOR validators: none needs nodes) computes nothing and the second (ALL validators) needs the node sets -/
theorem C02_node_sets_from_fixed_traces_default_flags : val_flag requires_nodes (major_validators.map (·.1)) = false ∧ val_flag requires_nodes (all_validators.map (·.1)) = true := ValCachesL.default_flags

/-- non-vacuity: the sets the second pass sees are those of the FIXED frame (frames are numbers, "nodes" their double, the sets ± 1) -/
example : (accesses (fun t : Nat => 2 * t) (· + 1) (· - 1) true 7 2 (val_between_passes (accesses (fun t : Nat => 2 * t) (· + 1) (· - 1) true 5 3 {}).2)).1 = [(some 15, some 13), (some 15, some 13)] := by decide

end Caches

end C02
