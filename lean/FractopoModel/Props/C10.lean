import FractopoModel.Generated.ValidationUtils
import FractopoModel.Lemmas.Stacking
import FractopoModel.Lemmas.SharpCorners
import FractopoModel.Generated.ValidatorMethods
import FractopoModel.Generated.Windows
import FractopoModel.Generated.ValidationDefaults
import FractopoModel.Generated.JunctionShift
import FractopoModel.Lemmas.Underlap
import FractopoModel.Generated.AreaValidator
import FractopoModel.Generated.UnitVectorCompare
import FractopoModel.Lemmas.Loops
/-!
# C10 — near-threshold errors are reported inside the documented windows only

First the window arithmetic; then the regenerated decision skeletons of the detectors in closed form (`C10_generated_*`), over oracles for their
geometry, which is tied by stream S10.
-/
namespace C10

/-- UNDERLAPPING / OVERLAPPING SNAP: the end's distance to a candidate lies strictly between the
threshold and threshold × error multiplier -/
theorem C10_underlap_window (d t m : Rat) : Gen.underlap_window d t m = true ↔ (t < d ∧ d < t * m) := by
  unfold Gen.underlap_window; simp

/-- an end already snapped to some trace (closer than the threshold) is not examined further -/
theorem C10_well_snapped (d t : Rat) : Gen.well_snapped d t = true ↔ d < t := by unfold Gen.well_snapped; simp

/-- TRACE UNDERLAPS TARGET AREA: distance to the boundary in `[t, t × multiplier × edge multiplier)` -/
theorem C10_area_window (d t m a : Rat) : Gen.area_window d t m a = true ↔ (t ≤ d ∧ d < t * m * a) := by
  unfold Gen.area_window; simp

/-- the same features clearly outside the windows (below 0.9× the lower or above 1.2× the upper
bound) are not reported, for every positive threshold and multipliers ≥ 1 -/
theorem C10_outside_silent (d t m a : Rat) (ht : 0 < t) (hm : 1 ≤ m) (ha : 1 ≤ a) :
    (d ≤ 9 / 10 * t → Gen.underlap_window d t m = false ∧ Gen.area_window d t m a = false) ∧
    (6 / 5 * (t * m) ≤ d → Gen.underlap_window d t m = false) ∧
    (6 / 5 * (t * m * a) ≤ d → Gen.area_window d t m a = false) := by
  have htm : 0 < t * m := Rat.mul_pos ht (Std.lt_of_lt_of_le (by decide) hm)
  have htma : 0 < t * m * a := Rat.mul_pos htm (Std.lt_of_lt_of_le (by decide) ha)
  -- a positive `x` lies strictly between `9/10 x` and `6/5 x`
  have lo {x : Rat} (hx : 0 < x) (h : d ≤ 9 / 10 * x) : d < x :=
    Std.lt_of_le_of_lt h (by simpa only [Rat.one_mul] using Rat.mul_lt_mul_of_pos_right (show (9 / 10 : Rat) < 1 by decide +kernel) hx)
  have hi {x : Rat} (hx : 0 < x) (h : 6 / 5 * x ≤ d) : x < d :=
    Std.lt_of_lt_of_le (by simpa only [Rat.one_mul] using Rat.mul_lt_mul_of_pos_right (show (1 : Rat) < 6 / 5 by decide +kernel) hx) h
  simp only [← Bool.not_eq_true, C10_underlap_window, C10_area_window]
  exact ⟨fun h => ⟨fun w => Rat.lt_irrefl (Std.lt_trans w.1 (lo ht h)), fun w => Rat.not_le.mpr (lo ht h) w.1⟩,
    fun h w => Rat.lt_irrefl (Std.lt_trans w.2 (hi htm h)), fun h w => Rat.lt_irrefl (Std.lt_trans w.2 (hi htma h))⟩

/-- with the default multipliers the windows are (t, 1.1 t) and [t, 1.65 t) -/
theorem C10_default_windows (d t : Rat) :
    (Gen.underlap_window d t Gen.SNAP_THRESHOLD_ERROR_MULTIPLIER = true ↔ (t < d ∧ d < t * (11 / 10))) ∧
    (Gen.area_window d t Gen.SNAP_THRESHOLD_ERROR_MULTIPLIER Gen.AREA_EDGE_SNAP_MULTIPLIER = true ↔ (t ≤ d ∧ d < t * (33 / 20))) := by
  have e1 : Gen.SNAP_THRESHOLD_ERROR_MULTIPLIER = 11 / 10 := by decide +kernel
  have e2 : Gen.AREA_EDGE_SNAP_MULTIPLIER = 3 / 2 := by decide +kernel
  have e3 : (11 / 10 : Rat) * (3 / 2) = 33 / 20 := by decide +kernel
  rw [C10_underlap_window, C10_area_window, e1, e2, Rat.mul_assoc, e3]
  exact ⟨Iff.rfl, Iff.rfl⟩

/-- V NODE / MULTI JUNCTION: points of different traces closer than threshold × multiplier -/
theorem C10_junction_window (t m : Rat) : Gen.junction_distance t m = t * m := rfl

/-- stacking buffer and overlap-detection length with the defaults: 5.5 t and 50 t; sharp-turn angles 135 / 100 degrees -/
theorem C10_stacking_defaults :
    Gen.SNAP_THRESHOLD_ERROR_MULTIPLIER * Gen.STACKED_DETECTOR_BUFFER_MULTIPLIER = 11 / 2 ∧ Gen.OVERLAP_DETECTION_MULTIPLIER = 50 ∧
    Gen.SHARP_AVG_THRESHOLD = 135 ∧ Gen.SHARP_PREV_SEG_THRESHOLD = 100 ∧ Gen.TRIANGLE_ERROR_SNAP_MULTIPLIER = 10 := by
  decide +kernel

/-- **The regenerated `UnderlappingSnapValidator.validation_method` is the specified decision**: both loops, the well-snapped
skip, the window test, the first hit deciding, the string written into the class attribute -- for every trace, every
candidate list (any length), any thresholds, any behaviour of the geometric oracles. -/
theorem C10_generated_underlap_eq_spec {L P : Type} (endpoints_of : L → List P) (dist : L → P → Rat) (isUl : L → L → P → Option Bool)
    (overlaps : L → L → Bool) (geom : L) (cands : List L) (t m : Rat) (glob : String) :
    Gen.underlap_validation endpoints_of dist isUl overlaps geom cands t m glob
      = Spec.underlapVerdict dist isUl overlaps geom cands (endpoints_of geom) t m glob :=
  Underlap.generated_eq_spec endpoints_of dist isUl overlaps geom cands t m glob

/-- the window used inside the loops is the regenerated window expression of `C10_underlap_window` -/
theorem C10_loop_window (t m d : Rat) : Spec.inWindow t m d = Gen.underlap_window d t m := rfl

/-- **Reported inside the window only, and only for ends that are not well snapped**: the trace passes exactly when every
end is either strictly within the threshold of some candidate, or has no candidate at a distance in (t, t·m) -/
theorem C10_underlap_silent_iff {L P : Type} (dist : L → P → Rat) (t m : Rat) (cands : List L) (eps : List P) :
    Spec.underlapHit dist t m cands eps = none ↔
      ∀ ep ∈ eps, Spec.wellSnapped dist cands t ep = true ∨ ∀ c ∈ cands, Spec.inWindow t m (dist c ep) = false := by
  unfold Spec.underlapHit
  rw [List.findSome?_eq_none_iff]
  refine forall₂_congr fun ep _ => ?_
  by_cases hw : Spec.wellSnapped dist cands t ep = true
  · simp only [hw, if_true, true_or]
  · simp only [hw, Bool.false_eq_true, if_false, false_or, Option.map_eq_none_iff, List.find?_eq_none, Bool.not_eq_true]

section Area
variable {L P A : Type} (endpoints_of : L → List P) (candidate : P → L → A → Bool) (bdist : P → A → Rat) (geom : L) (areas : List A) (t m a : Rat)

theorem area_loop2_eq (ep : P) (l : List A) :
    Gen.area_validation_loop2 endpoints_of candidate bdist geom areas t m a ep l =
      if l.any (fun ar => candidate ep geom ar && Gen.area_window (bdist ep ar) t m a) then .ret false else .done () := by
  apply Loop.scan
  · rfl
  · intro ar l; exact Loop.ite_ite_and ..

theorem area_loop1_eq (alleps eps : List P) :
    Gen.area_validation_loop1 endpoints_of candidate bdist geom areas t m a alleps eps =
      if eps.any (fun ep => areas.any fun ar => candidate ep geom ar && Gen.area_window (bdist ep ar) t m a) then .ret false else .done () := by
  apply Loop.scan
  · rfl
  · intro ep l; rw [Gen.area_validation_loop1, area_loop2_eq]; cases List.any _ _ <;> rfl

end Area

/-- **TRACE UNDERLAPS TARGET AREA is reported inside the documented window only**: the regenerated validation method (both
loops) fails exactly when some end is a candidate for some area polygon (inside it, on a part of the trace that does not reach
the boundary) and its distance to that polygon's boundary lies in `[t, t·m·a)` (the regenerated window of `C10_area_window`) -/
theorem C10_generated_area_validation {L P A : Type} (endpoints_of : L → List P) (candidate : P → L → A → Bool) (bdist : P → A → Rat)
    (geom : L) (areas : List A) (t m a : Rat) :
    Gen.area_validation endpoints_of candidate bdist geom areas t m a =
      !((endpoints_of geom).any fun ep => areas.any fun ar => candidate ep geom ar && Gen.area_window (bdist ep ar) t m a) := by
  rw [Gen.area_validation, area_loop1_eq]
  cases List.any _ _ <;> rfl

/-- the quick candidate checks: an end outside the polygon is never a candidate; an end inside with the whole trace inside
(exactly, or after the 1 + t scaling of the polygon) always is; otherwise the split-based test decides (`none`) -/
theorem C10_simple_underlapping_checks (epIn geomIn geomInScaled : Bool) :
    Gen.simple_underlapping_checks epIn geomIn geomInScaled =
      if !epIn then some false else if geomIn || geomInScaled then some true else none := by
  unfold Gen.simple_underlapping_checks
  cases epIn <;> cases geomIn <;> cases geomInScaled <;> rfl

/-- non-vacuity: one candidate, first end 1.05 t away (inside the window), second end free; the oracle says "underlapping" -/
example :
    Gen.underlap_validation (fun (_ : Unit) => [0, 1]) (fun _ (p : Nat) => if p = 0 then 21 / 2000 else 5) (fun _ _ _ => some true) (fun _ _ => false)
      () [()] (1 / 100) (11 / 10) "x" = .ok (false, "UNDERLAPPING SNAP") := by decide +kernel

example : Gen.underlap_window (21 / 2000) (1 / 100) (11 / 10) = true ∧ Gen.underlap_window (1 / 100) (1 / 100) (11 / 10) = false := by decide +kernel

/-! ### regenerated decision skeletons of trace_validation_utils.py -/

section Utils
variable {L S P : Type}

theorem underlap_loop1_eq (split_ : L → L → Option (List S)) (sdist : S → P → Rat) (geom trace : L) (ep : P) (t m : Rat) (all l : List S) :
    Gen.is_underlapping_loop1 split_ sdist geom trace ep t m all l =
      if l.any (fun sg => decide (sdist sg ep < t * m)) then .ret (some false) else .done () := by
  apply Loop.scan <;> intros <;> rfl

/-- **The under/overlap decision** (`is_underlapping`, regenerated): unresolved (`None`) when the split fails; *underlapping* when
the split leaves the trace in one piece (no intersection); *overlapping* when it is cut and some piece lies strictly within the
error distance `t·m` of the end (the dangling stub); unresolved otherwise. -/
theorem C10_generated_is_underlapping (split_ : L → L → Option (List S)) (sdist : S → P → Rat) (geom trace : L) (ep : P) (t m : Rat) :
    Gen.is_underlapping split_ sdist geom trace ep t m =
      match split_ geom trace with
      | none => none
      | some ps =>
        if ps.length = 1 then some true
        else if ps.length > 1 && ps.any (fun sg => decide (sdist sg ep < t * m)) then some false
        else none := by
  unfold Gen.is_underlapping
  cases split_ geom trace with
  | none => rfl
  | some ps =>
    -- the statement's `&&` taken apart into the two nested tests the code makes (`ite_ite_and` backwards)
    simp only [underlap_loop1_eq, decide_eq_true_eq, ← Loop.ite_ite_and]
    cases List.any _ _ <;> rfl

/-- **The middle of a small triangle** (`determine_middle_in_triangle`, regenerated): the pieces that are strictly within `t·m` of at
least two of the OTHER pieces, in order. -/
theorem C10_generated_middle_in_triangle (ssdist : S → S → Rat) (segments : List S) (t m : Rat) :
    Gen.determine_middle_in_triangle ssdist segments t m =
      (segments.zipIdx.filter fun x => decide (((segments.eraseIdx x.2).countP fun o => decide (ssdist x.1 o < t * m)) ≥ 2)).map (·.1) := by
  show Gen.determine_middle_in_triangle_loop1 ssdist segments t m segments.zipIdx [] = _
  rw [Loop.filter (f := Gen.determine_middle_in_triangle_loop1 ssdist segments t m) (g := (·.1)) (fun _ => rfl) fun _ _ _ => rfl, List.nil_append]
  -- the translation compares the count as a `Rat`
  have cast (n : Nat) : ((n : Rat) ≥ 2) = (n ≥ 2) := propext (Rat.natCast_le_natCast (a := 2))
  simp only [cast]

theorem triangle_loop1_eq (split_ : L → L → Option (List S)) (ip : L → L → Bool) (ssdist : S → S → Rat) (slen : S → Rat) (tr sp : L) (t k : Rat) (all l : List Rat) :
    Gen.split_to_determine_triangle_errors_loop1 split_ ip ssdist slen tr sp t k all l =
      if l.any (fun x => decide (t / k < x) && decide (x < t * k)) then .ret true else .done () := by
  apply Loop.scan <;> intros <;> rfl

/-- **The small-triangle flavour of STACKED TRACES** (`split_to_determine_triangle_errors`, regenerated): when the split fails the
verdict is "error" unless the two traces meet in a single point; when the split yields more than three pieces it is an error;
with exactly three pieces it is an error iff one of the relevant pieces -- the middle ones (`C10_generated_middle_in_triangle`) if
there are any, else all three -- has a length strictly inside the window `(t / k, t · k)`; with one or two pieces never. -/
theorem C10_generated_triangle (split_ : L → L → Option (List S)) (ip : L → L → Bool) (ssdist : S → S → Rat) (slen : S → Rat) (tr sp : L) (t k : Rat) :
    Gen.split_to_determine_triangle_errors split_ ip ssdist slen tr sp t k =
      match split_ tr sp with
      | none => !ip tr sp
      | some segs =>
        if segs.length > 3 then true
        else if segs.length > 2 then
          let middle := Gen.determine_middle_in_triangle ssdist segs t k
          ((if middle.length > 0 then middle else segs).map slen).any fun x => decide (t / k < x) && decide (x < t * k)
        else false := by
  unfold Gen.split_to_determine_triangle_errors
  cases split_ tr sp with
  | none => cases ip tr sp <;> rfl
  | some segs =>
    simp only [triangle_loop1_eq, decide_eq_true_eq]
    by_cases h3 : segs.length > 3
    · rw [if_pos h3, if_pos h3, if_pos (Nat.lt_of_succ_lt h3)]
    · rw [if_neg h3, if_neg h3, apply_ite (List.map slen)]
      cases List.any _ _ <;> rfl

/-- **The alongside flavour of STACKED TRACES in closed form** (`segment_within_buffer` with `segmentize_linestring`, `linestring_segment`
and `within_bounds`, all regenerated): never for an empty neighbour set; at once when the trace overlaps its neighbours in more than
points; otherwise the neighbours are cropped to the buffer of radius `t·m·b` around the trace -- nothing left, or a single part
shorter than the detection length `t·o`, or a non-linear crop means "not stacked" -- and every cropped part is cut, FROM ITS START,
into pieces of the detection length: stacked iff one of these pieces has both ends inside the buffer's bounding box, is longer than
(or `isclose` to) the detection length and lies within the buffer. (The last piece of a part and parts shorter than two detection
lengths are where known finding F24 lives: which pieces exist depends on where the crop happened to start.) -/
theorem C10_generated_stacking_decision {L' M B : Type} (mls_empty : M → Bool) (overlaps : L' → M → Bool) (inter_is_points : L' → M → Bool) (buffer_ : L' → Rat → B)
    (bounds_of : B → Rat × Rat × Rat × Rat) (intersects : B → M → Bool) (crop_ : B → M → List L') (crop_is_lines : B → M → Bool) (interp : L' → Rat → Rat × Rat)
    (slen : L' → Rat) (seg_len : Rat × Rat → Rat × Rat → Rat) (isclose : Rat → Rat → Bool) (seg_within : Rat × Rat → Rat × Rat → B → Bool)
    (ls : L') (mls : M) (t m o b : Rat) :
    Gen.segment_within_buffer mls_empty overlaps inter_is_points buffer_ bounds_of intersects crop_ crop_is_lines interp slen seg_len isclose seg_within ls mls t m o b =
      (if mls_empty mls then false
       else if overlaps ls mls && !inter_is_points ls mls then true
       else StackingL.tail buffer_ bounds_of intersects crop_ crop_is_lines interp slen seg_len isclose seg_within ls mls t m o b) := by
  unfold Gen.segment_within_buffer StackingL.tail
  simp only [StackingL.loop1_eq, StackingL.loop3_eq, StackingL.loop2_eq, StackingL.loop4_eq, List.nil_append]
  -- with the loops in closed form the two copies of the last part are the same term
  rw [Loop.ite_ite_and]
  generalize bounds_of (buffer_ ls (t * m * b)) = bb
  obtain ⟨minx, miny, maxx, maxy⟩ := bb
  cases List.any _ _ <;> rfl

/-- the pieces a cropped part is cut into start at 0, `d`, `2d`, … below its length, each reaching one detection length further -/
theorem C10_generated_segmentize {L' : Type} (interp : L' → Rat → Rat × Rat) (slen : L' → Rat) (ls : L') (d : Rat) :
    Gen.segmentize_linestring interp slen ls d = (pyArange 0 (slen ls) d).map fun s => (interp ls s, interp ls (s + d)) := by
  rw [Gen.segmentize_linestring, List.map_eq_flatMap, ← List.nil_append (List.flatMap ..)]
  apply Loop.collect <;> intros <;> rfl

/-- **SHARP TURNS in closed form** (`SharpCornerValidator.validation_method`, regenerated): a two-vertex trace always passes; a trace
whose chord direction is undefined fails; otherwise the trace passes iff EVERY segment has a defined direction within the average
threshold of the chord direction and, from the second segment on, within the previous-segment threshold of its predecessor. -/
theorem C10_generated_sharp_turns {L' P' V : Type} (coords_of : L' → List P') (dflt : P') (unit : P' → P' → V) (is_nan : V → Bool) (aligned : V → V → Rat → Bool)
    (geom : L') (avg prev : Rat) :
    Gen.sharp_corner_validation coords_of dflt unit is_nan aligned geom avg prev =
      (let cs := coords_of geom
       let chord := unit (cs.headD dflt) (cs.getLastD dflt)
       if cs.length = 2 then true
       else if is_nan chord then false
       else (List.range (cs.length - 1)).all (SharpL.okAt dflt unit is_nan aligned cs chord avg prev)) := by
  unfold Gen.sharp_corner_validation
  -- `zipIdx` pairs vertex `i` with `i`; leaving at the last index, the loop tests the indices below it
  simp only [List.zipIdx_eq_map_getD _ dflt, SharpL.loop1_eq, List.takeWhile_range_ne (Nat.sub_le _ 1), decide_eq_true_eq]
  cases List.all _ _ <;> rfl

theorem stacked_loop1_eq {L' : Type} (is_ls : L' → Bool) (nb : L' → Rat → L' → Bool) (al : L' → List L' → Bool) (tri : L' → L' → Bool) (geom : L') (cands : List L')
    (t m o : Rat) (l : List L') :
    Gen.stacked_validation_loop1 is_ls nb al tri geom cands t m o l = if l.any (fun c => tri geom c) then .ret false else .done () := by
  apply Loop.scan <;> intros <;> rfl

/-- **When a trace is reported STACKED TRACES** (`StackedTracesValidator.validation_method`, regenerated): never without candidates;
otherwise iff the alongside test (`C10_generated_stacking_decision`) fires on the LineString candidates whose buffer of radius
`t·o·m` meets the trace, or the small-triangle test (`C10_generated_triangle`) fires against ANY candidate. -/
theorem C10_generated_stacked_validator {L' : Type} (is_ls : L' → Bool) (nb : L' → Rat → L' → Bool) (al : L' → List L' → Bool) (tri : L' → L' → Bool) (geom : L')
    (cands : List L') (t m o : Rat) :
    Gen.stacked_validation is_ls nb al tri geom cands t m o =
      (cands.isEmpty || !(al geom (cands.filter fun tc => is_ls tc && nb tc (t * o * m) geom) || cands.any fun c => tri geom c)) := by
  simp only [Gen.stacked_validation, stacked_loop1_eq]
  cases cands with
  | nil => rfl
  | cons c cs => cases al geom _ <;> cases List.any _ _ <;> rfl

end Utils

/-- **Identical directions compare as equal, also when rounding pushes the dot product above 1.** In the regenerated `compare_unit_vector_orientation` two vectors
that do not face opposite ways and whose dot product is close to 1 are "the same direction" -- whatever the exact value of the product (the product of two equal
unit vectors is often 1.0000000000000002) and whatever arccos would say; otherwise, inside the domain of arccos, they are the same direction iff the angle does not
exceed the threshold; outside it they are not. So a straight interior vertex never gives SHARP TURNS. -/
theorem C10_generated_direction_compare {V : Type} (opposite : V → V → Bool) (dot : V → V → Rat) (close_to_one is_nan : Rat → Bool) (arccos rad2deg : Rat → Rat)
    (u v : V) (thr : Rat) :
    Gen.compare_unit_vector_orientation opposite dot close_to_one is_nan arccos rad2deg u v thr =
      (!(opposite u v) && (close_to_one (dot u v) ||
        (!(decide (dot u v > 1) || decide (dot u v < -1) || is_nan (dot u v)) && !(decide (rad2deg (arccos (dot u v)) > thr))))) := by
  unfold Gen.compare_unit_vector_orientation
  simp only []
  -- the tests in the order the function makes them
  cases opposite u v
  · cases close_to_one (dot u v)
    · cases decide (dot u v > 1) || decide (dot u v < -1) || is_nan (dot u v)
      · cases decide (rad2deg (arccos (dot u v)) > thr) <;> rfl
      · rfl
    · rfl
  · rfl

example : Gen.compare_unit_vector_orientation (fun (_ _ : Unit) => false) (fun _ _ => (1 : Rat) + 1 / 4503599627370496) (fun d => decide (d < 1 + 1 / 100000 ∧ d > 1 - 1 / 100000))
    (fun _ => false) (fun _ => 0) (fun r => r) () () 100 = true := by decide +kernel

end C10
