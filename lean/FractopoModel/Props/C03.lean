import FractopoModel.Props.C01
import FractopoModel.Lemmas.SnapDriver
import FractopoModel.Generated.Windows
import FractopoModel.Generated.SnapConstants
import FractopoModel.Generated.ZCoordinates
/-!
# C03 — data that passes validation is analysable (the threshold contract between the two halves)

The two halves of the package share one threshold: snapping acts strictly inside it, the
validators report strictly between it and threshold × multiplier.  The theorems state, for every
gap and threshold, that an end which validation accepts is either snapped (connected) or at
least a threshold away from the trace it approaches (a clean free tip) -- nothing accepted is
left closer than the threshold without being connected.  That the extraction of such maps is a
consistent planar graph is tied by stream S03 on generated near-threshold maps.
-/
namespace C03

/-- accepted by the under/overlap validator: not in the window (or already well snapped) -/
def accepted (d t m : Rat) : Bool := Gen.well_snapped d t || !Gen.underlap_window d t m

/-- **Threshold contract (trace ends near traces).** For all `d ≥ 0`, `t > 0`, `m ≥ 1`: an end at
distance `d` that is accepted is snapped when it is off the trace (`d < t`), and otherwise is at
least `t` away; in particular never in `(t, t·m)`. -/
theorem C03_contract (d t m : Rat) (hm : 1 ≤ m) (ht : 0 < t) (h : accepted d t m = true) :
    (d < t ∧ Gen.snap_guard d t false = true) ∨ (d = t ∧ Gen.snap_guard d t false = false) ∨ (t * m ≤ d ∧ Gen.snap_guard d t false = false) := by
  unfold accepted Gen.well_snapped Gen.underlap_window at h
  unfold Gen.snap_guard
  by_cases c1 : d < t
  · exact .inl ⟨c1, by simp [c1]⟩
  · right
    by_cases c2 : d = t
    · exact .inl ⟨c2, by simp [c1]⟩
    · -- beyond the threshold: accepted means outside the validator's window
      have c3 : t < d := Rat.lt_of_le_of_ne (Rat.not_lt.mp c1) (Ne.symm c2)
      simp only [c1, c3, decide_false, decide_true, Bool.false_or, Bool.true_and, Bool.not_eq_true', decide_eq_false_iff_not] at h
      exact .inr ⟨Rat.not_lt.mp h, by simp [c1]⟩

/-- **Threshold contract (trace ends near the area boundary).** An end inside the area that is
accepted by the area validator is within the threshold of the boundary (and becomes an E-node, by
the same strict test) or at least `t·m·a` away. -/
theorem C03_contract_boundary (d t m a : Rat) (h : Gen.area_window d t m a = false) :
    Gen.node_boundary_close d t = true ∨ t * m * a ≤ d := by
  unfold Gen.area_window at h
  unfold Gen.node_boundary_close
  by_cases c1 : d < t
  · exact .inl (decide_eq_true c1)
  · simp only [Rat.not_lt.mp c1, decide_true, Bool.true_and, decide_eq_false_iff_not] at h
    exact .inr (Rat.not_lt.mp h)

/-- the snapping loop either stabilises or raises after more than `allowed_loops` passes -/
theorem C03_loop_bound (loops : Nat) : Gen.snapping_loop_raises loops Gen.allowed_loops_default = true ↔ 10 < loops := by
  simp [Gen.snapping_loop_raises, Gen.allowed_loops_default]

/-- consistency of the node classes with the branch ends meeting there (from C05): I, Y, X
terminate exactly 1, 3, 4 branches; 2 ends (a removed stub) would be labelled I -- the error case -/
theorem C03_degree_classes :
    Gen.degree_to_class 0 = "I" ∧ Gen.degree_to_class 2 = "Y" ∧ Gen.degree_to_class 3 = "X" ∧ Gen.degree_to_class 1 = "I" := by decide

example : accepted (1 / 200) (1 / 100) (11 / 10) = true ∧ accepted (21 / 2000) (1 / 100) (11 / 10) = false ∧ accepted (3 / 100) (1 / 100) (11 / 10) = true := by
  decide +kernel

/-- **Extraction gives up only by raising, never by looping on**: whenever the regenerated snapping driver of
`branches_and_nodes` returns (for any pass function that does not raise by itself), at most `allowed_loops` repeat passes were
made -- the `report_snapping_loop` bound, for the regenerated `while` loop. -/
theorem C03_generated_loop_bound (ord : SnapL.Ord) (t margin : Rat) (areas : List Polygon) (allowed : Nat)
    (pass_ : List Polyline → List Polyline × Bool) (hpass : ∀ tr, SnapL.snapPass ord t margin areas tr = .ok (pass_ tr))
    (traces out : List Polyline) (n : Nat) (h : Gen.snap_driver pass_ traces allowed (allowed + 2) = .ok (out, n)) : n ≤ allowed := by
  rw [SnapDriver.generated_driver ord t margin areas allowed pass_ hpass] at h
  exact Pipeline.snapLoop_bound h

/-- **Extraction either completes or raises what the snapping stage raised.** For the regenerated `branches_and_nodes` (orchestration and
snapping pass regenerated, `C01_generated_pipeline`): when the model's snapping loop on the prepared traces raises -- `RecursionError`
after more than `allowed_loops` repeat passes (`C03_loop_bound`), or a `ValueError` of a pass -- extraction raises exactly that and
returns no tables; when it completes, the only other exception is the `TypeError` of the noding dispatch. In particular a map that
cannot be made stable within the allowed number of passes is refused, never silently extracted. -/
theorem C03_generated_raise {A U N : Type} (ord : SnapL.Ord) (dedupe : List Polyline → List Polyline) (polys_of : A → List Polygon) (is_ls : Polyline → Bool)
    (crop : List Polyline → List A → List Polyline) (len : Polyline → Rat) (union_all : List Polyline → U) (u_is_multi u_is_line : U → Bool)
    (u_parts : U → List Polyline) (node_table : List Polyline → List A → Rat → List N × List String)
    (branch_labels : List Polyline → List N → List String → Rat → List String)
    (dist : Pt → Polyline → Rat) (bdist : Pt → Polygon → Rat) (t : Rat)
    (hdist : ∀ ep l, decide (dist ep l < t) = SnapL.near t ep l)
    (hbd : ∀ ep (pg : Polygon), decide (bdist ep pg < t) = decide (pg.boundaryDist2 ep < t * t))
    (traces : List Polyline) (areas : List A) (allowed : Nat) (clipped : Bool) (e : String)
    (h : SnapL.snapLoop ord t (t * 20) ((areas.map polys_of).flatMap id) allowed (Pipeline.prepared dedupe is_ls crop traces areas clipped) = .error e) :
    Gen.branches_and_nodes dedupe polys_of is_ls crop
        (fun tr thr polys => Gen.snap_traces SnapStageL.boundsE (SnapStageL.indexE ord) SnapStageL.simpleSnapG SnapL.ends bdist dist (fun ep l => SnapL.onLine ep l)
          (fun l ep th => Snap.insertGeo l ep th) tr thr (some polys))
        len union_all u_is_multi u_is_line u_parts node_table branch_labels traces areas t allowed clipped (allowed + 2) = .error e := by
  rw [C01.C01_generated_pipeline ord dedupe polys_of is_ls crop len union_all u_is_multi u_is_line u_parts node_table branch_labels dist bdist t hdist hbd, h]

/-! ### the z-coordinate gate in front of snapping and noding -/

/-- **The clean-up runs as soon as ANY geometry has a Z value.** The regenerated `check_for_z_coordinates` is true iff some geometry (that has the attribute
at all) has Z: a map with Z values on only some of its traces is cleaned before the 2-D snapping and noding work on it. -/
theorem C03_generated_z_gate {G : Type} (has_attr has_z : G → Bool) (l : List G) :
    Gen.check_for_z_coordinates has_attr has_z l = true ↔ ∃ g ∈ l, has_attr g = true ∧ has_z g = true := by
  unfold Gen.check_for_z_coordinates
  simp [List.any_eq_true]

example : Gen.check_for_z_coordinates (fun _ => true) (fun g : Nat => g > 100) [1, 2, 300] = true := by decide

end C03
