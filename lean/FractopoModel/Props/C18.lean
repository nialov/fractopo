import FractopoModel.Generated.GridSampling
import FractopoModel.Generated.GridLoops
import FractopoModel.Model.Grid
import FractopoModel.Generated.Grid
import FractopoModel.Generated.SampleCell
import FractopoModel.Lemmas.Lists
/-!
# C18 — contour grid: cover, equal disjoint cells, deterministic order, schedule-independence
-/
namespace C18
open Grid

/-- the cells along one axis reach the far bound: `extent ≤ ⌈extent / w⌉ · w` -/
theorem C18_cover_axis (extent w : Rat) (hw : 0 < w) : extent ≤ ((extent / w).ceil : Rat) * w :=
  (Rat.div_le_iff hw).mp Rat.le_ceil

/-- … with no superfluous cell: `(⌈extent / w⌉ − 1) · w < extent` -/
theorem C18_tight_axis (extent w : Rat) (hw : 0 < w) : (((extent / w).ceil : Rat) - 1) * w < extent :=
  (Rat.lt_div_iff hw).mp (Rat.sub_lt_iff.mpr Rat.ceil_lt)

/-- a coordinate at distance `d ∈ [0, extent]` from the anchor lies in the closed cell `[k·w, (k+1)·w]` of some index `k < ⌈extent / w⌉` -/
theorem cover_axis_index (d extent w : Rat) (hw : 0 < w) (hd0 : 0 ≤ d) (hd1 : d ≤ extent) (hpos : 0 < extent) :
    ∃ k : Nat, (k : Int) < (extent / w).ceil ∧ (k : Rat) * w ≤ d ∧ d ≤ ((k : Rat) + 1) * w := by
  rcases Rat.le_iff_lt_or_eq.mp hd0 with hd | rfl
  · -- the last of the cells that `[0, d]` alone needs: `C18_tight_axis` and `C18_cover_axis` with `d` as the extent
    have hc : 0 < (d / w).ceil := Rat.ceil_pos (Rat.div_pos hd hw)
    have e : ((((d / w).ceil - 1).toNat : Nat) : Rat) = ((d / w).ceil : Rat) - 1 := by
      rw [Rat.natCast_toNat (by omega), Rat.intCast_sub, Rat.intCast_one]
    refine ⟨((d / w).ceil - 1).toNat, ?_, ?_, ?_⟩
    · have := Rat.ceil_le_ceil (Rat.div_le_div_right hd1 hw)
      omega
    · rw [e]; exact Rat.le_of_lt (C18_tight_axis d w hw)
    · rw [e, Rat.sub_add_cancel]; exact C18_cover_axis d w hw
  · refine ⟨0, Rat.ceil_pos (Rat.div_pos hpos hw), ?_, ?_⟩
    · rw [Rat.natCast_ofNat, Rat.zero_mul]; exact Rat.le_refl
    · rw [Rat.natCast_ofNat, Rat.zero_add, Rat.one_mul]; exact Rat.le_of_lt hw

/-- the regenerated row/column counts are those ceilings, anchored at the top-left corner -/
theorem C18_counts (xmin ymin xmax ymax w : Rat) :
    Gen.grid_rows xmin ymin xmax ymax w = ((ymax - ymin) / w).ceil ∧
    Gen.grid_cols xmin ymin xmax ymax w = ((xmax - xmin) / w).ceil ∧
    Gen.grid_x_left_origin xmin ymin xmax ymax w = xmin ∧ Gen.grid_x_right_origin xmin ymin xmax ymax w = xmin + w ∧
    Gen.grid_y_top_origin xmin ymin xmax ymax w = ymax ∧ Gen.grid_y_bottom_origin xmin ymin xmax ymax w = ymax - w ∧
    Gen.grid_column_major = true := ⟨rfl, rfl, rfl, rfl, rfl, rfl, rfl⟩

/-- FINDING F11: a zero extent (a single vertical or horizontal trace) gives zero cells -/
theorem C18_degenerate (w : Rat) : ((0 : Rat) / w).ceil = 0 := by
  rw [Rat.div_def, Rat.zero_mul]; rfl

/-- every cell is a square of the requested width -/
theorem C18_cell_square (xmin ymax w : Rat) (c r : Nat) :
    (cell xmin ymax w c r).right - (cell xmin ymax w c r).left = w ∧
    (cell xmin ymax w c r).top - (cell xmin ymax w c r).bottom = w := by
  simp only [cell]; grind

/-- one row per cell, in column-major order -/
theorem C18_cell_count (xmin ymax w : Rat) (rows cols : Nat) : (cells xmin ymax w rows cols).length = cols * rows := by
  rw [cells, List.length_flatMap]
  simp only [List.length_map, List.length_range, List.map_const', List.sum_replicate_nat]

/-- distinct cells do not overlap: their interiors are separated in x (different columns) or in
y (different rows) -/
theorem C18_disjoint (xmin ymax w : Rat) (hw : 0 < w) (c r c' r' : Nat) (h : (c, r) ≠ (c', r')) :
    (cell xmin ymax w c r).right ≤ (cell xmin ymax w c' r').left ∨ (cell xmin ymax w c' r').right ≤ (cell xmin ymax w c r).left ∨
    (cell xmin ymax w c r).top ≤ (cell xmin ymax w c' r').bottom ∨ (cell xmin ymax w c' r').top ≤ (cell xmin ymax w c r).bottom := by
  have mono : ∀ {a b : Nat}, a < b → ((a : Rat) + 1) * w ≤ (b : Rat) * w := fun h =>
    Rat.mul_le_mul_of_nonneg_right (by exact_mod_cast h) (Rat.le_of_lt hw)
  simp only [cell]
  by_cases hc : c = c'
  · have hr : r ≠ r' := fun hr => h (by rw [hc, hr])
    rcases Nat.lt_or_gt_of_ne hr with h1 | h1
    · exact .inr (.inr (.inr (Rat.sub_le_sub_left (mono h1) _)))
    · exact .inr (.inr (.inl (Rat.sub_le_sub_left (mono h1) _)))
  · rcases Nat.lt_or_gt_of_ne hc with h1 | h1
    · exact .inl (Rat.add_le_add_left.mpr (mono h1))
    · exact .inr (.inl (Rat.add_le_add_left.mpr (mono h1)))

/-- the union of the cells contains the bounding box of the lines: every point of
`[xmin, xmax] × [ymin, ymax]` lies in some cell with column `< cols` and row `< rows` -/
theorem C18_cover (xmin ymin xmax ymax w x y : Rat) (hw : 0 < w) (hx0 : xmin ≤ x) (hx1 : x ≤ xmax) (hy0 : ymin ≤ y) (hy1 : y ≤ ymax)
    (hxx : xmin < xmax) (hyy : ymin < ymax) :
    ∃ c r : Nat, (c : Int) < Gen.grid_cols xmin ymin xmax ymax w ∧ (r : Int) < Gen.grid_rows xmin ymin xmax ymax w ∧
      (cell xmin ymax w c r).left ≤ x ∧ x ≤ (cell xmin ymax w c r).right ∧
      (cell xmin ymax w c r).bottom ≤ y ∧ y ≤ (cell xmin ymax w c r).top := by
  obtain ⟨c, hc, hc1, hc2⟩ := cover_axis_index (x - xmin) (xmax - xmin) w hw
    ((Rat.le_iff_sub_nonneg _ _).mp hx0) (Rat.sub_le_sub_right hx1 _) ((Rat.lt_iff_sub_pos _ _).mp hxx)
  obtain ⟨r, hr, hr1, hr2⟩ := cover_axis_index (ymax - y) (ymax - ymin) w hw
    ((Rat.le_iff_sub_nonneg _ _).mp hy1) (Rat.sub_le_sub_left hy0 _) ((Rat.lt_iff_sub_pos _ _).mp hyy)
  exact ⟨c, r, hc, hr, by simp only [cell]; grind⟩

/-- the sample circle radius is 1.5 cell widths (for any `sqrt` with `sqrt (w²) = w`) -/
theorem C18_radius (sqrt : Rat → Rat) (w : Rat) (h : sqrt (w * w) = w) : Gen.sample_radius sqrt (w * w) = 3 / 2 * w := by
  unfold Gen.sample_radius; rw [h]; grind

/-! ### schedule independence -/

theorem foldl_write_length {β : Type} (done : List (Nat × β)) (slots : List (Option β)) : (done.foldl write slots).length = slots.length := by
  induction done generalizing slots with
  | nil => rfl
  | cons p rest ih => rw [List.foldl_cons, ih, write, List.length_set]

/-- a slot that holds `v` already or is still to be written, and is only ever written with `v`, ends up holding it -/
theorem gather_getElem {β : Type} (done : List (Nat × β)) (slots : List (Option β)) (i : Nat) (v : β) (hi : i < slots.length)
    (hs : slots[i]? = some (some v) ∨ (i, v) ∈ done) (h : ∀ p ∈ done, p.1 = i → p.2 = v) : (done.foldl write slots)[i]? = some (some v) := by
  induction done generalizing slots with
  | nil => exact hs.resolve_right List.not_mem_nil
  | cons p rest ih =>
    refine ih (write slots p) (by rw [write, List.length_set]; exact hi) ?_ fun q hq => h q (List.mem_cons_of_mem _ hq)
    by_cases hpi : p.1 = i
    · exact .inl (by rw [write, hpi, h p List.mem_cons_self hpi, List.getElem?_set_self hi])
    · rw [write, List.getElem?_set_ne hpi]
      exact hs.imp_right fun hm => (List.mem_cons.mp hm).resolve_left fun e => hpi (congrArg Prod.fst e).symm

/-- **Schedule independence.** Whatever the completion order (any list containing every
`(index, f cell)` pair, nothing else for those indices -- e.g. any permutation of the submission
order, with any number of workers), gathering by submission index yields exactly
`cells.map f`: the table is identical for every schedule. -/
theorem C18_schedule {α β : Type} (f : α → β) (cs : List α) (done : List (Nat × β))
    (hall : ∀ i (h : i < cs.length), (i, f cs[i]) ∈ done)
    (hsound : ∀ p ∈ done, ∃ h : p.1 < cs.length, p.2 = f (cs[p.1]'h)) :
    gather cs.length done = cs.map (fun c => some (f c)) := by
  have hlen : (gather cs.length done).length = cs.length := by rw [gather, foldl_write_length, List.length_replicate]
  refine List.ext_getElem (by rw [hlen, List.length_map]) fun i hi _ => ?_
  rw [hlen] at hi
  apply Option.some.inj
  rw [← List.getElem?_eq_getElem, List.getElem_map]
  refine gather_getElem done _ i (f cs[i]) (by rw [List.length_replicate]; exact hi) (.inr (hall i hi)) fun p hp hpi => ?_
  obtain ⟨_, hv⟩ := hsound p hp
  subst hpi; exact hv

example : gather 3 [(2, "c"), (0, "a"), (1, "b")] = [some "a", some "b", some "c"] := rfl

/-! ### the regenerated loops of `create_grid` -/

def cellTuple (c : Cell) : Rat × Rat × Rat × Rat := (c.left, c.right, c.bottom, c.top)

/-- one more step of the descending rows / ascending columns, for the re-indexing in the loop inductions -/
theorem sub_step (a h i : Rat) : a - h - i * h = a - (i + 1) * h := by grind

theorem add_step (a w k : Rat) : a + w + k * w = a + (k + 1) * w := by grind

/-- the inner loop lays one column from the top down, `l.length` cells of height `h` (`a b c d w rows` are variables of the enclosing function that the loop carries and does not read) -/
theorem grid_loop2_eq (a b c d w xl xr h : Rat) (rows : Int) (l : List Nat) (p : List (Rat × Rat × Rat × Rat)) (yt yb : Rat) :
    Gen.create_grid_cells_loop2 a b c d w xl xr h rows l p yt yb =
      (p ++ (List.range l.length).map (fun (i : Nat) => (xl, xr, yb - (i : Rat) * h, yt - (i : Rat) * h)), yt - (l.length : Rat) * h, yb - (l.length : Rat) * h) := by
  induction l generalizing p yt yb with
  | nil => simp [Gen.create_grid_cells_loop2, Rat.sub_zero]
  | cons x rest ih =>
    rw [Gen.create_grid_cells_loop2, ih]
    -- the first row apart: `range (n + 1) = 0 :: (range n).map (· + 1)`, and the rows counted from the second one are those counted from the first (`sub_step`)
    simp only [sub_step, List.length_cons, List.range_succ_eq_map, List.map_cons, List.map_map, Function.comp_def, List.append_assoc,
      List.singleton_append, Nat.succ_eq_add_one, Rat.natCast_add, Rat.natCast_ofNat, Rat.zero_mul, Rat.sub_zero]

/-- the outer loop lays `l.length` such columns from the left, each starting again at the top -/
theorem grid_loop1_eq (a b c d w yt0 yb0 h : Rat) (rows cols : Int) (l : List Nat) (p : List (Rat × Rat × Rat × Rat)) (xl xr : Rat) :
    (Gen.create_grid_cells_loop1 a b c d w yt0 yb0 rows h cols l p xl xr).1 =
      p ++ (List.range l.length).flatMap (fun (k : Nat) => (List.range rows.toNat).map fun (i : Nat) =>
        (xl + (k : Rat) * w, xr + (k : Rat) * w, yb0 - (i : Rat) * h, yt0 - (i : Rat) * h)) := by
  induction l generalizing p xl xr with
  | nil => simp [Gen.create_grid_cells_loop1]
  | cons x rest ih =>
    -- as in `grid_loop2_eq`, with a whole column (the inner loop in closed form) in place of a cell
    rw [Gen.create_grid_cells_loop1]
    simp only [grid_loop2_eq, List.length_range]
    rw [ih]
    simp only [add_step, List.length_cons, List.range_succ_eq_map, List.flatMap_cons, List.flatMap_map, List.append_assoc,
      Nat.succ_eq_add_one, Rat.natCast_add, Rat.natCast_ofNat, Rat.zero_mul, Rat.add_zero]

/-- **The regenerated loops of `create_grid` build exactly the model grid**: `cols × rows` cells, column by column from the left,
each column from the top, cell (c, r) spanning `[xmin + c·w, xmin + (c+1)·w] × [ymax − (r+1)·w, ymax − r·w]` -- what the
repeated additions of the loops reach in exact arithmetic -- with `rows = ⌈(ymax − ymin)/w⌉`, `cols = ⌈(xmax − xmin)/w⌉`. All
theorems about `Grid.cells` (`C18_cell_square`, `C18_cell_count`, `C18_disjoint`, `C18_cover`) therefore hold of the regenerated code. -/
theorem C18_generated_grid (xmin ymin xmax ymax w : Rat) :
    Gen.create_grid_cells xmin ymin xmax ymax w =
      (cells xmin ymax w (((ymax - ymin) / w).ceil.toNat) (((xmax - xmin) / w).ceil.toNat)).map cellTuple := by
  -- with the loops in closed form both sides are a `flatMap` of `map`s over the same ranges; `add_step` / `sub_step` turn the right and bottom
  -- origins `xmin + w`, `ymax − w` plus `c`, `r` steps into the model's `(c + 1)·w`, `(r + 1)·w`
  simp only [Gen.create_grid_cells, grid_loop1_eq, List.nil_append, List.length_range, cells, List.map_flatMap, List.map_map, Function.comp_def,
    cellTuple, cell, add_step, sub_step]

/-- **Which data the grid is laid over** (`run_grid_sampling`, regenerated): an empty trace frame gives the empty result; a COPY of a precursor grid is
used as it is (a non-frame precursor is a TypeError); otherwise a cell width that is negative or close to zero is a ValueError, and the
grid is created over the BRANCHES whenever there are any and over the traces only when there are none -- then sampled. -/
theorem C18_generated_grid_sampling {L Gr R : Type} (empty_result : R) (is_frame : Option Gr → Bool) (dflt : Gr) (copy_ : Gr → Gr) (isclose0 : Rat → Bool)
    (create_grid_ : Rat → List L → Gr) (sample_ : Gr → R) (traces branches : List L) (w : Rat) (pre : Option Gr) :
    Gen.run_grid_sampling empty_result is_frame dflt copy_ isclose0 create_grid_ sample_ traces branches w pre =
      (if traces.isEmpty then .ok empty_result
       else match pre with
         | some g => if is_frame (some g) then .ok (sample_ (copy_ g)) else .error "TypeError"
         | none =>
           if isclose0 w || decide (w < 0) then .error "ValueError"
           else .ok (sample_ (create_grid_ w (if branches.length > 0 then branches else traces)))) := by
  unfold Gen.run_grid_sampling
  cases traces.isEmpty with
  | true => rfl
  | false =>
    cases pre with
    | some g => cases h : is_frame (some g) <;> simp [h]
    | none =>
      cases (isclose0 w || decide (w < 0))
      · by_cases hb : branches.length > 0 <;> simp [hb]
      · rfl

/-! ### one grid cell (regenerated `populate_sample_cell`) -/

section SampleCell
open Gen
variable {Cell Pt0 C S G P K R : Type}

/-- what one sample circle contains, as the regenerated `populate_sample_cell` computes it (no per-cell extraction) -/
def sampleSpec (area_of : C → Rat) (tindex bindex : List G → S) (nindex : List (P × String) → S) (window : S → C → List Nat)
    (meets : G → C → Bool) (pmeets : P → C → Bool) (crop : List G → C → List G) (len : G → Rat) (count_nodes : List String → K)
    (topo : List Rat → K → Rat → List Rat → Bool → Bool → R) (circle : C) (traces : List G) (nodes : List (P × String)) (branches : List G) : R :=
  let pick : {α : Type} → S → List α → List α := fun i l => (window i circle).filterMap fun k => l[k]?
  let inside : List G → List G := fun cands => if cands.any (fun g => meets g circle) then crop cands circle else []
  let tc := pick (tindex traces) traces
  if tc.length = 0 then topo [] (count_nodes []) (area_of circle) [] true false
  else if branches.length > 0 then
    let sn := if nodes.any (fun n => pmeets n.1 circle) then (pick (nindex nodes) nodes).filter (fun n => pmeets n.1 circle) else []
    topo ((inside tc).map len) (count_nodes (sn.map (·.2))) (area_of circle) ((inside (pick (bindex branches) branches)).map len) true false
  else topo ((inside tc).map len) (count_nodes []) (area_of circle) [] false false

/-- the part of `sampleSpec` after the branches and nodes are known (`r` = per-cell extraction was asked for) -/
def sampleRest (area_of : C → Rat) (bindex : List G → S) (nindex : List (P × String) → S) (window : S → C → List Nat)
    (meets : G → C → Bool) (pmeets : P → C → Bool) (crop : List G → C → List G) (len : G → Rat) (count_nodes : List String → K)
    (topo : List Rat → K → Rat → List Rat → Bool → Bool → R) (circle : C) (tc : List G) (nodes : List (P × String)) (branches : List G) (r : Bool) : R :=
  let pick : {α : Type} → S → List α → List α := fun i l => (window i circle).filterMap fun k => l[k]?
  let inside : List G → List G := fun cands => if cands.any (fun g => meets g circle) then crop cands circle else []
  if branches.length > 0 then
    let sn := if nodes.any (fun n => pmeets n.1 circle) then (pick (nindex nodes) nodes).filter (fun n => pmeets n.1 circle) else []
    topo ((inside tc).map len) (count_nodes (sn.map (·.2))) (area_of circle) ((inside (pick (bindex branches) branches)).map len) true r
  else topo ((inside tc).map len) (count_nodes []) (area_of circle) [] false r

/-- Both modes of the regenerated `populate_sample_cell` at once. Per-cell extraction (`r`) changes three things: a circle into which no trace candidate reaches counts as
empty too, branches and nodes are those extracted from the trace candidates (`ban`, which may raise) instead of the caller's, and `topo` is told so. -/
theorem populate_sample_cell_eq (centroid_of : Cell → Pt0) (is_point : Pt0 → Bool) (circle_of : Pt0 → Rat → C) (area_of : C → Rat) (tindex bindex : List G → S)
    (nindex : List (P × String) → S) (window : S → C → List Nat) (meets : G → C → Bool) (pmeets : P → C → Bool) (crop : List G → C → List G) (len : G → Rat)
    (count_nodes : List String → K) (topo : List Rat → K → Rat → List Rat → Bool → Bool → R) (ban : List G → C → Except String (List G × List (P × String)))
    (cell : Cell) (cell_area : Rat) (traces : List G) (nodes : List (P × String)) (branches : List G) (r : Bool) (hp : is_point (centroid_of cell) = true) :
    populate_sample_cell centroid_of is_point circle_of area_of tindex bindex nindex window meets pmeets crop len count_nodes topo ban cell cell_area traces nodes branches r =
      (let circle := circle_of (centroid_of cell) cell_area
       let tc := (window (tindex traces) circle).filterMap fun k => traces[k]?
       let inside := if tc.any (fun g => meets g circle) then crop tc circle else []
       if tc.length = 0 ∨ (r = true ∧ inside.length = 0) then .ok (topo [] (count_nodes []) (area_of circle) [] true r)
       else match (if r then ban tc circle else .ok (branches, nodes)) with
         | .error e => .error e
         | .ok bn => .ok (sampleRest area_of bindex nindex window meets pmeets crop len count_nodes topo circle tc bn.2 bn.1 r)) := by
  unfold populate_sample_cell sampleRest sc_choose_geometries sc_resolve_samples
  simp only [hp, Bool.not_true, Bool.false_eq_true, if_false, Bool.or_eq_true, Bool.and_eq_true, decide_eq_true_eq]
  refine ite_congr rfl (fun _ => rfl) fun _ => ?_
  split
  · next h => rw [h]
  · next b n h =>
    rw [h]
    -- the generated code chooses the pair (node counts, branch lengths) by `b.length > 0`, `sampleRest` the whole call of `topo`
    by_cases hl : b.length > 0 <;> simp only [hl, decide_true, decide_false, if_true, if_false]

/-- **What a grid cell reports.** The regenerated `populate_sample_cell` (nested helpers included; no per-cell extraction) returns the parameter function applied to: the
lengths of the trace candidates cropped to the cell's sample circle (nothing when no candidate meets it), the classes of the node candidates inside the circle, the circle's
area, the lengths of the branch candidates cropped to the circle -- or, when the index window of the circle holds no trace at all, the parameters of the empty sample with
the circle's area. The circle comes from the cell's centroid and the cell area only (radius factor: `Gen.sample_radius`-items of Grid). -/
theorem C18_generated_sample_cell (centroid_of : Cell → Pt0) (is_point : Pt0 → Bool) (circle_of : Pt0 → Rat → C) (area_of : C → Rat) (tindex bindex : List G → S)
    (nindex : List (P × String) → S) (window : S → C → List Nat) (meets : G → C → Bool) (pmeets : P → C → Bool) (crop : List G → C → List G) (len : G → Rat)
    (count_nodes : List String → K) (topo : List Rat → K → Rat → List Rat → Bool → Bool → R) (ban : List G → C → Except String (List G × List (P × String)))
    (cell : Cell) (cell_area : Rat) (traces : List G) (nodes : List (P × String)) (branches : List G) (hp : is_point (centroid_of cell) = true) :
    populate_sample_cell centroid_of is_point circle_of area_of tindex bindex nindex window meets pmeets crop len count_nodes topo ban cell cell_area traces nodes branches false =
      .ok (sampleSpec area_of tindex bindex nindex window meets pmeets crop len count_nodes topo (circle_of (centroid_of cell) cell_area) traces nodes branches) := by
  rw [populate_sample_cell_eq (hp := hp)]
  unfold sampleSpec sampleRest
  simp only [Bool.false_eq_true, false_and, or_false, if_false]
  -- `sampleSpec` is this with the `.ok` outside the `if`
  exact (apply_ite Except.ok ..).symm

/-- **Per-cell topology mode** (after the repair of F17: a circle that holds no trace is the empty sample, not a crash). With `resolve_branches_and_nodes` the regenerated
`populate_sample_cell` reports the parameters of the empty sample when the index window of the circle holds no trace OR none of the candidates has a part inside the circle;
otherwise it extracts branches and nodes from the trace candidates and reports the parameters of THOSE -- whether topology counts as defined is decided by the extracted
branches, never by the branches the caller passed; an exception of the extraction propagates. -/
theorem C18_generated_sample_cell_resolved (centroid_of : Cell → Pt0) (is_point : Pt0 → Bool) (circle_of : Pt0 → Rat → C) (area_of : C → Rat) (tindex bindex : List G → S)
    (nindex : List (P × String) → S) (window : S → C → List Nat) (meets : G → C → Bool) (pmeets : P → C → Bool) (crop : List G → C → List G) (len : G → Rat)
    (count_nodes : List String → K) (topo : List Rat → K → Rat → List Rat → Bool → Bool → R) (ban : List G → C → Except String (List G × List (P × String)))
    (cell : Cell) (cell_area : Rat) (traces : List G) (nodes : List (P × String)) (branches : List G) (hp : is_point (centroid_of cell) = true) :
    populate_sample_cell centroid_of is_point circle_of area_of tindex bindex nindex window meets pmeets crop len count_nodes topo ban cell cell_area traces nodes branches true =
      (let circle := circle_of (centroid_of cell) cell_area
       let tc := (window (tindex traces) circle).filterMap fun k => traces[k]?
       let inside := if tc.any (fun g => meets g circle) then crop tc circle else []
       if tc.length = 0 ∨ inside.length = 0 then .ok (topo [] (count_nodes []) (area_of circle) [] true true)
       else match ban tc circle with
         | .error e => .error e
         | .ok (b, n) => .ok (sampleRest area_of bindex nindex window meets pmeets crop len count_nodes topo circle tc n b true)) := by
  rw [populate_sample_cell_eq (hp := hp)]
  simp only [true_and, if_true]
  -- what is left differs in how the two `match`es take the extracted pair apart
  refine ite_congr rfl (fun _ => rfl) fun _ => ?_
  cases ban _ _ <;> rfl

/-- a cell whose centroid is not a point is refused -/
theorem C18_sample_cell_type_error (centroid_of : Cell → Pt0) (is_point : Pt0 → Bool) (circle_of : Pt0 → Rat → C) (area_of : C → Rat) (tindex bindex : List G → S)
    (nindex : List (P × String) → S) (window : S → C → List Nat) (meets : G → C → Bool) (pmeets : P → C → Bool) (crop : List G → C → List G) (len : G → Rat)
    (count_nodes : List String → K) (topo : List Rat → K → Rat → List Rat → Bool → Bool → R) (ban : List G → C → Except String (List G × List (P × String)))
    (cell : Cell) (cell_area : Rat) (traces : List G) (nodes : List (P × String)) (branches : List G) (r : Bool) (hp : is_point (centroid_of cell) = false) :
    populate_sample_cell centroid_of is_point circle_of area_of tindex bindex nindex window meets pmeets crop len count_nodes topo ban cell cell_area traces nodes branches r =
      .error "TypeError" := by
  unfold populate_sample_cell
  simp [hp]

/-- non-vacuity: geometries are numbers (length = the number, inside the circle iff < 10), the window reports everything: the cell reports the total length inside -/
example : populate_sample_cell (fun (_ : Unit) => ()) (fun _ => true) (fun _ _ => ()) (fun _ => 4) (fun _ => ()) (fun _ => ()) (fun _ => ()) (fun _ _ => [0, 1, 2])
    (fun (g : Nat) _ => g < 10) (fun (p : Nat) _ => p < 10) (fun l _ => l.filter (· < 10)) (fun g => (g : Rat)) (fun cls => cls.length)
    (fun tl k a _ _ _ => (tl.sum / a, k)) (fun _ _ => .error "x") () 1 [3, 50, 5] [(1, "X"), (70, "Y")] [3] false = .ok (2, 1) := by decide +kernel

end SampleCell

end C18
