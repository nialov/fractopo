import FractopoModel.Spec.Arrangement
import FractopoModel.Props.C05
import FractopoModel.Generated.LengthFilters
import FractopoModel.Generated.SnapConstants
import FractopoModel.Lemmas.SnapLoop
import FractopoModel.Lemmas.SnapDriver
import FractopoModel.Lemmas.SnapStage
/-!
# C01 — extracted topology equals the exact planar arrangement

The theorems below are the combinatorial half: for EVERY well-formed contact structure
(any number of traces, any contacts) the degree-counting classification that the code
performs on the noded pieces (`Topo.nodeClass` with the regenerated `degree_to_class`,
`Topo.branchLabel` with the regenerated `determine_branch_identity`) yields exactly the
arrangement's classes: cross ↦ X, abutment ↦ Y, free tip ↦ I, boundary cut ↦ E, and each
branch the pair of its end kinds.  The geometric half (the implementation's noding yields the
pieces of the contact structure on valid maps) is the law `NodingSpec`, sampled by stream S01
against the exact contact oracle (`Model/Contacts.lean`).
-/
namespace C01
open Arr Topo
variable {N : Type}

def endsOfPieces (evs : List (Event N)) : List N := (pieces evs).flatMap fun (ab : Event N × Event N) => [ab.1.node, ab.2.node]

theorem ends_toBranches (cs : CS N) : Topo.ends (toBranches cs) = cs.flatMap endsOfPieces := by
  simp only [toBranches, branches, Topo.ends, List.flatMap_map, List.flatMap_assoc]
  rfl

theorem pieces_length (evs : List (Event N)) : (pieces evs).length = evs.length - 1 := by
  cases evs with
  | nil => rfl
  | cons a l =>
    induction l generalizing a with
    | nil => rfl
    | cons b l ih => exact congrArg (· + 1) (ih b)

variable [DecidableEq N]

/-- along one trace a node is an end of two pieces where it is interior, of one where it is the first or the last event -/
theorem count_endsOfPieces (n : N) (evs : List (Event N)) :
    (endsOfPieces evs).count n = 2 * interiorOcc n evs + firstIs n evs + lastIs n evs := by
  cases evs with
  | nil => rfl
  | cons a l =>
    induction l generalizing a with
    | nil => rfl
    | cons b l ih =>
      have hstep : endsOfPieces (a :: b :: l) = a.node :: b.node :: endsOfPieces (b :: l) := rfl
      rw [hstep, List.count_cons, List.count_cons, ih b]
      cases l <;> simp only [interiorOcc, firstIs, lastIs, beq_iff_eq] <;> omega

/-- number of branch ends meeting at a node = 2·(interior occurrences) + (end occurrences) -/
theorem mult_formula (cs : CS N) (n : N) :
    Topo.mult (toBranches cs) n = 2 * totalInterior cs n + totalEnd cs n := by
  unfold Topo.mult
  rw [ends_toBranches]
  induction cs with
  | nil => rfl
  | cons evs rest ih =>
    simp only [List.flatMap_cons, List.count_append, totalInterior, totalEnd, List.map_cons, List.sum_cons, endOcc] at ih ⊢
    rw [count_endsOfPieces, ih]; omega

/-- multiplicities: 4 at a crossing, 3 at an abutment, 1 at a tip or a boundary end -/
theorem C01_multiplicity (cs : CS N) (h : WellFormed cs = true) (e : Event N) (he : e ∈ allEvents cs) :
    Topo.mult (toBranches cs) e.node =
      match e.role with
      | .onCross => 4 | .onAbut => 3 | .endAbut => 3 | .endFree => 1 | .endBoundary => 1 := by
  rw [mult_formula]
  -- `WellFormed` = (every trace in order) && (occurrence counts at every event) && (boundary flags agree): the middle part, at `e`
  have := List.all_eq_true.mp (Bool.and_eq_true_iff.mp (Bool.and_eq_true_iff.mp h).1).2 e he
  cases hr : e.role <;> simp only [hr, Bool.and_eq_true, beq_iff_eq] at this ⊢ <;> omega

theorem wf_boundary_consistent (cs : CS N) (h : WellFormed cs = true) (e : Event N) (he : e ∈ allEvents cs) :
    isBoundaryNode cs e.node = decide (e.role = .endBoundary) := by
  rw [Bool.eq_iff_iff, decide_eq_true_iff]
  simp only [isBoundaryNode, List.any_eq_true, Bool.and_eq_true, beq_iff_eq]
  constructor
  · rintro ⟨f, hf, hn, hr⟩
    simpa [hn, hr] using List.all_eq_true.mp (List.all_eq_true.mp (Bool.and_eq_true_iff.mp h).2 e he) f hf
  · exact fun hb => ⟨e, he, rfl, hb⟩

/-- **Node classes.** In every well-formed contact structure, counting branch ends at a node
(boundary proximity first, then the regenerated degree map on `multiplicity − 1`) gives the
class of the node's true kind: crossing ↦ X, abutment ↦ Y, free tip ↦ I, boundary end ↦ E. -/
theorem C01_node_class (cs : CS N) (h : WellFormed cs = true) (e : Event N) (he : e ∈ allEvents cs) :
    Topo.nodeClass (isBoundaryNode cs) Gen.degree_to_class (toBranches cs) e.node = classOfRole e.role := by
  unfold Topo.nodeClass
  rw [wf_boundary_consistent cs h e he, C01_multiplicity cs h e he]
  cases e.role <;> decide

/-- **Counts.** One branch per piece between consecutive nodes: `#branches = Σ (|events| − 1)`,
and twice that number is the sum of the node multiplicities (4X + 3Y + I + E on a
well-formed structure by `C01_multiplicity`). -/
theorem C01_counts (cs : CS N) :
    (toBranches cs).length = (cs.map fun evs => evs.length - 1).sum ∧
    ((Topo.collect (toBranches cs)).map (Topo.mult (toBranches cs))).sum = 2 * (toBranches cs).length := by
  refine ⟨?_, C05.C05_handshake _⟩
  simp only [toBranches, branches, List.length_map, List.length_flatMap, pieces_length]

/-- **Branch classes.** With coincident ends identical (crisp), the label computed from the
node classes found at the two ends of a piece is the connection class of its two end nodes. -/
theorem C01_branch_class (cs : CS N) (h : WellFormed cs = true) (b : Event N × Event N) (hb : b ∈ branches cs)
    (hmem : b.1 ∈ allEvents cs ∧ b.2 ∈ allEvents cs) (hne : b.1.node ≠ b.2.node) :
    let bs := toBranches cs
    let cls := Topo.nodeClass (isBoundaryNode cs) Gen.degree_to_class bs
    Topo.branchLabel Gen.determine_branch_identity (fun p q => decide (p = q)) (Topo.collect bs) cls ⟨b.1.node, b.2.node⟩
      = branchClass b := by
  intro bs cls
  have hbr : (⟨b.1.node, b.2.node⟩ : Topo.Branch N) ∈ bs := List.mem_map.mpr ⟨b, hb, rfl⟩
  have hends := C05.C05_end_has_unique_node bs _ hbr
  have hcls : ∀ n ∈ Topo.collect bs, cls n = "I" ∨ cls n = "X" ∨ cls n = "Y" ∨ cls n = "E" := by
    intro n _
    simp only [cls, Topo.nodeClass]
    split
    · simp
    · rw [C05.C05_degree_map]; unfold Spec.classOfDegree; split <;> simp
  have := C05.C05_branch_label (fun p q => decide (p = q)) (Topo.collect bs) cls hcls (Topo.collect_nodup bs)
    ⟨b.1.node, b.2.node⟩ hends.1.1 hends.2.1 (by intro n _; simp)
  rw [this]
  simp only [hne, if_false, cls, branchClass]
  rw [C01_node_class cs h b.1 hmem.1, C01_node_class cs h b.2 hmem.2]

/-! ## the length filters and the snapping loop on valid maps -/

/-- neither length filter removes a line longer than the documented minima (2.01·t for traces,
1.01·t for branches), and both are strict -/
theorem C01_filters (len t : Rat) (ht : 0 < t) :
    (Gen.trace_length_keep len t = decide (len > t * (201 / 100))) ∧
    (Gen.branch_length_keep len t = decide (len > t * (101 / 100))) ∧
    (len ≥ 50 * t → Gen.trace_length_keep len t = true ∧ Gen.branch_length_keep len t = true) := by
  refine ⟨rfl, rfl, ?_⟩
  intro h
  exact ⟨decide_eq_true (by grind), decide_eq_true (by grind)⟩

/-- the candidate window of snapping is the trace's bounds extended by 20·t on every side, and
the loop gives up (raises) only after more than `allowed_loops = 10` passes -/
theorem C01_snap_constants (minx miny maxx maxy t : Rat) (loops : Nat) :
    Gen.snap_extended_bounds minx miny maxx maxy t = (minx - 20 * t, miny - 20 * t, maxx + 20 * t, maxy + 20 * t) ∧
    Gen.allowed_loops_default = 10 ∧
    (Gen.snapping_loop_raises loops Gen.allowed_loops_default = true ↔ loops > 10) := by
  refine ⟨?_, rfl, ?_⟩
  · rw [Gen.snap_extended_bounds, Rat.mul_comm t 20]
  · simp [Gen.snapping_loop_raises, Gen.allowed_loops_default]

/-- **The snapping stage is the identity on maps whose contacts are exact** (the hypothesis `quietMap` is
evaluated by the oracle on the clipped pieces of every valid map of stream S01, for both candidate
orders): the noding stage therefore sees exactly the clipped traces, with the window margin and loop
bound of the regenerated constants (20·t, 10). -/
theorem C01_snap_stage_identity (ord : SnapL.Ord) (t : Rat) (areas : List Polygon) (pieces : List Polyline)
    (h : SnapL.quietMap ord t (20 * t) pieces = true) :
    SnapL.snapLoop ord t (20 * t) areas Gen.allowed_loops_default pieces = .ok (pieces, 0) :=
  SnapL.snapLoop_quiet ord t (20 * t) areas _ pieces h

/-- non-vacuity: one crossing (node 5), one abutment (node 6), two boundary cuts -/
example :
    let cs : CS Nat := [[⟨1, .endBoundary⟩, ⟨5, .onCross⟩, ⟨2, .endBoundary⟩],
                        [⟨3, .endFree⟩, ⟨5, .onCross⟩, ⟨6, .onAbut⟩, ⟨4, .endFree⟩],
                        [⟨7, .endFree⟩, ⟨6, .endAbut⟩]]
    WellFormed cs = true ∧ Topo.mult (toBranches cs) 5 = 4 ∧ Topo.mult (toBranches cs) 6 = 3 := by
  decide

/-! ### the regenerated orchestration of `branches_and_nodes` -/

section Pipeline
variable {A U N : Type}

/-- **What `branches_and_nodes` computes, stage by stage.** The orchestration is regenerated whole (`Gen.branches_and_nodes`), its
snapping pass is the regenerated `snap_traces` with all its regenerated callees. For every input, either candidate order of the
spatial index, distance parameters obeying the threshold laws, and the fuel `allowed_loops + 2` (never exhausted):

* the trace list is prepared first -- duplicates removed, non-LineStrings dropped, and, unless `already_clipped`, cropped to the
  target areas (and filtered again) BEFORE any snapping; `already_clipped` is read nowhere else;
* the snapping stage on that list is the model loop `SnapL.snapLoop` over the flattened polygons of the areas, with its
  `RecursionError` / `ValueError`s propagating unchanged;
* the snapped traces are then filtered by length (> 2.01 t), noded, dispatched on the type of the noding result (TypeError
  otherwise), the pieces filtered by length (> 1.01 t), and the node table and branch labels computed from exactly those pieces. -/
theorem C01_generated_pipeline (ord : SnapL.Ord) (dedupe : List Polyline → List Polyline) (polys_of : A → List Polygon) (is_ls : Polyline → Bool)
    (crop : List Polyline → List A → List Polyline) (len : Polyline → Rat) (union_all : List Polyline → U) (u_is_multi u_is_line : U → Bool)
    (u_parts : U → List Polyline) (node_table : List Polyline → List A → Rat → List N × List String)
    (branch_labels : List Polyline → List N → List String → Rat → List String)
    (dist : Pt → Polyline → Rat) (bdist : Pt → Polygon → Rat) (t : Rat)
    (hdist : ∀ ep l, decide (dist ep l < t) = SnapL.near t ep l)
    (hbd : ∀ ep (pg : Polygon), decide (bdist ep pg < t) = decide (pg.boundaryDist2 ep < t * t))
    (traces : List Polyline) (areas : List A) (allowed : Nat) (clipped : Bool) :
    Gen.branches_and_nodes dedupe polys_of is_ls crop
        (fun tr thr polys => Gen.snap_traces SnapStageL.boundsE (SnapStageL.indexE ord) SnapStageL.simpleSnapG SnapL.ends bdist dist (fun ep l => SnapL.onLine ep l)
          (fun l ep th => Snap.insertGeo l ep th) tr thr (some polys))
        len union_all u_is_multi u_is_line u_parts node_table branch_labels traces areas t allowed clipped (allowed + 2)
      = match SnapL.snapLoop ord t (t * 20) ((areas.map polys_of).flatMap id) allowed (Pipeline.prepared dedupe is_ls crop traces areas clipped) with
        | .error e => .error e
        | .ok (snapped, _) => Pipeline.finish len union_all u_is_multi u_is_line u_parts node_table branch_labels areas t snapped := by
  rw [Pipeline.generated_pipeline]
  simp only [SnapStageL.generated_snap_traces ord t _ _ dist bdist hdist hbd]
  rw [Pipeline.stage_eq_snapLoop]
  cases SnapL.snapLoop ord t (t * 20) ((areas.map polys_of).flatMap id) allowed (Pipeline.prepared dedupe is_ls crop traces areas clipped) <;> rfl

end Pipeline

end C01
