import FractopoModel.Model.Cli
import FractopoModel.Generated.Cli
import FractopoModel.Generated.ErrorColumn
import FractopoModel.Generated.GeoReader
import FractopoModel.Spec.Validators
/-!
# C19 — CLI and file round trips
-/
namespace C19
open Cli

theorem write_same {C : Type} (fs : FS C) (p : String) (c : C) : fs.write p c p = some c := if_pos rfl
theorem write_ne {C : Type} (fs : FS C) {p q : String} (c : C) (h : q ≠ p) : fs.write p c q = fs q := if_neg h
theorem unlink_ne {C : Type} (fs : FS C) {p q : String} (h : q ≠ p) : fs.unlink p q = fs q := if_neg h

/-- **Inputs are left untouched.** After `tracevalidate`, every path other than the output path
holds exactly what it held before -- in particular both input files, unless one of them was
named as the output; the output path holds the computed content (an existing file is replaced). -/
theorem C19_inputs_untouched {C : Type} (fs fs' : FS C) (tp ap op : String) (compute : C → C → C)
    (h : tracevalidate fs tp ap op compute = some fs') :
    (∀ p, p ≠ op → fs' p = fs p) ∧ (∃ t a, fs tp = some t ∧ fs ap = some a ∧ fs' op = some (compute t a)) := by
  unfold tracevalidate at h
  split at h
  · next t a ht ha =>
    cases h
    refine ⟨fun p hp => ?_, t, a, ht, ha, write_same ..⟩
    rw [write_ne _ _ hp]
    split
    · exact unlink_ne _ hp
    · rfl
  · cases h

/-- the written content depends only on the two input contents (and the options inside `compute`),
not on what was at the output path before -/
theorem C19_output_replaced {C : Type} (fs : FS C) (tp ap op : String) (compute : C → C → C) (old : C)
    (hop : op ≠ tp) (hop2 : op ≠ ap) (fs1 fs2 : FS C)
    (h1 : tracevalidate fs tp ap op compute = some fs1)
    (h2 : tracevalidate (fs.write op old) tp ap op compute = some fs2) : fs1 op = fs2 op := by
  obtain ⟨_, t, a, ht, ha, e1⟩ := C19_inputs_untouched fs fs1 tp ap op compute h1
  obtain ⟨_, t', a', ht', ha', e2⟩ := C19_inputs_untouched _ fs2 tp ap op compute h2
  rw [write_ne _ _ hop.symm, ht] at ht'
  rw [write_ne _ _ hop2.symm, ha] at ha'
  cases ht'; cases ha'
  rw [e1, e2]

/-- regenerated option plumbing: defaults, options handed through to the library unchanged,
`--only-area-validation` chooses exactly the area validator, the only deletion is the output path -/
theorem C19_options :
    Gen.tracevalidate_defaults = [("allow_fix", "True"), ("summary", "True"), ("snap_threshold", "0.001"), ("output", "None"),
      ("only_area_validation", "False"), ("allow_empty_area", "True")] ∧
    Gen.network_defaults = [("snap_threshold", "0.001"), ("determine_branches_nodes", "True"), ("name", "None"),
      ("circular_target_area", "False"), ("truncate_traces", "True")] ∧
    Gen.only_area_validators = [Spec.vArea.name] ∧ Gen.tracevalidate_deletes = ["output_path"] ∧
    Gen.tracevalidate_passes_options_through = true ∧ Gen.network_passes_options_through = true :=
  ⟨rfl, rfl, rfl, rfl, rfl, rfl⟩

/-- inside a string: the quote-free characters `a` are pushed on `acc` (which is kept in reverse), the quote closes the item -/
theorem parse_inStr (a rest acc : List Char) (items : List (List Char)) (hq : '\'' ∉ a) :
    parseGoC (a ++ '\'' :: rest) .inStr acc items = parseGoC rest .afterStr [] ((acc.reverse ++ a) :: items) := by
  induction a generalizing acc with
  | nil => simp only [List.nil_append, parseGoC, if_true, List.append_nil]
  | cons c cs ih =>
    have hc : c ≠ '\'' := fun h => hq (h ▸ List.mem_cons_self)
    have hcs : '\'' ∉ cs := fun h => hq (List.mem_cons_of_mem _ h)
    simp only [List.cons_append, parseGoC, hc, if_false]
    rw [ih (c :: acc) hcs, List.reverse_cons, List.append_assoc, List.singleton_append]

/-- one quoted item is read back and put in front of the items read so far -/
theorem parse_item (a rest : List Char) (items : List (List Char)) (hq : '\'' ∉ a) :
    parseGoC ('\'' :: a ++ '\'' :: rest) .out [] items = parseGoC rest .afterStr [] (a :: items) := by
  rw [List.cons_append, parseGoC, if_pos rfl, parse_inStr a rest [] items hq, List.reverse_nil, List.nil_append]

/-- the items after the opening parenthesis are read back, up to the closing one, behind the items read so far -/
theorem parse_items (l : List (List Char)) (hq : ∀ a ∈ l, '\'' ∉ a) (items : List (List Char)) :
    parseGoC (itemsC l) .out [] items = some (items.reverse ++ l) := by
  induction l generalizing items with
  | nil => simp [itemsC, parseGoC]
  | cons a rest ih =>
    have ha := hq a List.mem_cons_self
    cases rest with
    | nil =>
      rw [itemsC, parse_item a _ items ha]
      simp [parseGoC]
    | cons b rest' =>
      rw [itemsC, parse_item a _ items ha]
      simp only [parseGoC, if_true]
      rw [ih (fun x hx => hq x (List.mem_cons_of_mem _ hx)) (a :: items)]
      simp

/-- **The written text determines the tuple.** For every tuple of quote-free strings (all
documented error strings are), parsing the Python text of the tuple gives the tuple back; so the
error column written by the CLI carries exactly the library's validation result. -/
theorem C19_repr_parse (l : List (List Char)) (hq : ∀ a ∈ l, '\'' ∉ a) : parseTupleC (pyTupleReprC l) = some l := by
  match l with
  | [] => rfl
  | [a] =>
    show parseGoC ('\'' :: a ++ ['\'', ',', ')']) .out [] [] = _
    rw [parse_item a _ [] (hq a List.mem_cons_self)]
    rfl
  | a :: b :: rest =>
    show parseGoC (itemsC (a :: b :: rest)) .out [] [] = _
    rw [parse_items (a :: b :: rest) hq []]
    rfl

theorem C19_repr_injective (l l' : List (List Char)) (hq : ∀ a ∈ l, '\'' ∉ a) (hq' : ∀ a ∈ l', '\'' ∉ a)
    (h : pyTupleReprC l = pyTupleReprC l') : l = l' := by
  have h1 := C19_repr_parse l hq
  have h2 := C19_repr_parse l' hq'
  rw [h] at h1; rw [h1] at h2; exact Option.some.inj h2

/-- **The error column under its Shapefile name.** A Shapefile keeps the first 10 characters of a field name (dBase; the behaviour of the
driver is what S19-tracevalidate observes). The regenerated `ERROR_COLUMN_TRUNC` is exactly the first 10 characters of the error column name, for
every name (shorter names unchanged), so the column a validated Shapefile carries is one of the two that `run_validation` drops from its input
before validating again (`Gen.stale_columns`, shape-checked) -- a re-validated file gets fresh errors under the same single column. -/
theorem C19_error_column_shapefile_name (col : List Char) :
    Gen.error_column_trunc col = col.take 10 ∧ col.take 10 ∈ Gen.stale_columns col ∧ col ∈ Gen.stale_columns col := by
  have h : Gen.error_column_trunc col = col.take 10 := by
    unfold Gen.error_column_trunc pySliceL
    by_cases hl : col.length > 9
    · simp [hl]
    · have : col.length ≤ 10 := by omega
      simp [hl, List.take_of_length_le this]
  exact ⟨h, by simp [Gen.stale_columns, h], by simp [Gen.stale_columns]⟩

example : String.ofList (Gen.error_column_trunc Gen.error_column) = "VALIDATION" ∧ String.ofList Gen.error_column = "VALIDATION_ERRORS" := by decide +kernel

example : String.ofList (pyTupleReprC ["V NODE".toList]) = "('V NODE',)" ∧ pyTupleReprC [] = "()".toList := by decide +kernel


/-! ## the package's reader (regenerated `read_geofile`) -/

/-- **The reader returns what the file holds now.** Regenerated `read_geofile` in closed form: the frame `gpd.read_file` returns for the path at the time of the call,
TypeError when that is not a frame — nothing else enters (the item also checks that the function carries no decorator: no memo per path). -/
theorem C19_generated_reader {D : Type} (read_ : String → D) (is_frame : D → Bool) (p : String) :
    Gen.read_geofile read_ is_frame p = if is_frame (read_ p) then .ok (read_ p) else .error "TypeError" := by
  unfold Gen.read_geofile
  cases h : is_frame (read_ p) <;> simp [h]

/-- … so over any history of the file system — a path written, read, REWRITTEN — a read after the last write gives the last content written (and an earlier read the
earlier content): with the model's file system `Cli.FS` as the state behind `gpd.read_file`. -/
theorem C19_reader_sees_the_rewritten_file {C : Type} (fs : Cli.FS C) (p : String) (a b dflt : C) :
    Gen.read_geofile (fun q => ((fs.write p a) q).getD dflt) (fun _ => true) p = .ok a ∧
    Gen.read_geofile (fun q => (((fs.write p a).write p b) q).getD dflt) (fun _ => true) p = .ok b := by
  simp only [C19_generated_reader, write_same, if_true, Option.getD_some, and_self]

example : Gen.read_geofile (fun q => ((Cli.FS.write (Cli.FS.write (fun _ => none) "t.gpkg" (5 : Nat)) "t.gpkg" 4) q).getD 0) (fun _ => true) "t.gpkg" = .ok 4 := by
  simp only [C19_generated_reader, write_same, if_true, Option.getD_some]


end C19
