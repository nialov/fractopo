import FractopoModel.Generated.IntersectsLoop
import FractopoModel.Model.Relationships
import FractopoModel.Generated.DetermineIntersect
import FractopoModel.Generated.RelationshipLoop
import FractopoModel.Generated.NetworkInit
import FractopoModel.Lemmas.Loops
/-!
# C12 — cross-cut / abutting relationship counts
-/
namespace C12
open Rel

theorem pairs_sublist {l l' : List String} (h : l.Sublist l') : (pairs l).Sublist (pairs l') := by
  induction h with
  | slnil => exact .slnil
  | cons a _ ih => exact ih.trans (List.sublist_append_right _ _)
  | cons_cons a hs ih => exact (hs.map _).append ih

/-- further sets only insert rows: the rows of the old sets stay, in their order -/
theorem table_sublist (nodes : List Node) (nonEmpty : String → Bool) {names names' : List String} (h : names.Sublist names') :
    (table nodes nonEmpty names).Sublist (table nodes nonEmpty names') :=
  (pairs_sublist h).filterMap _

/-- **The row of a pair depends only on those two sets.** Defining further sets -- anywhere in
the list, including sets with no traces -- neither changes nor removes any existing row. -/
theorem C12_rows_independent (nodes : List Node) (nonEmpty : String → Bool) (names names' : List String)
    (h : names.Sublist names') (r : Row) (hr : r ∈ table nodes nonEmpty names) : r ∈ table nodes nonEmpty names' :=
  (table_sublist nodes nonEmpty h).subset hr

/-- every pair of sets that both contain traces has its row, equal to `rowOf` of just those two -/
theorem C12_row_present (nodes : List Node) (nonEmpty : String → Bool) (names : List String) (a b : String)
    (hp : (a, b) ∈ pairs names) (ha : nonEmpty a = true) (hb : nonEmpty b = true) :
    rowOf nodes a b ∈ table nodes nonEmpty names := by
  simp only [table, List.mem_filterMap]
  exact ⟨(a, b), hp, by simp [ha, hb]⟩

/-- what is recorded for an X- or Y-node that meets both sets -/
theorem intersectOf_selected (n : Node) (hc : n.cls = "X" ∨ n.cls = "Y") (a b : String) (ht : (n.touch a && n.touch b) = true) :
    intersectOf n.cls (n.touch a) (n.touch b) (n.endsIn a) a b = .ok (if n.cls = "Y" ∧ n.endsIn a = false then (b, a) else (a, b)) := by
  simp only [Bool.and_eq_true] at ht
  rcases hc with h | h <;> cases he : n.endsIn a <;> simp [intersectOf, h, ht.1, ht.2]

/-- zero errors, always: nodes are pre-selected by "meets both sets", so the error branches of
`determine_intersect` are unreachable for X and Y nodes -/
theorem C12_no_errors (nodes : List Node) (hcls : ∀ n ∈ nodes, n.cls = "X" ∨ n.cls = "Y") (a b : String) :
    (rowOf nodes a b).errors = 0 := by
  refine List.countP_eq_zero.mpr fun r hr => ?_
  obtain ⟨n, hn, rfl⟩ := List.mem_map.mp hr
  simp [intersectOf_selected n (hcls n (List.mem_filter.mp hn).1) a b (List.mem_filter.mp hn).2]

/-- **Counts.** With X and Y nodes only: `x` = number of X-nodes meeting both sets, `y` = number
of Y-nodes meeting both sets where a trace of the FIRST set ends, `y-reverse` the others. -/
theorem C12_counts (nodes : List Node) (hcls : ∀ n ∈ nodes, n.cls = "X" ∨ n.cls = "Y") (a b : String) (hab : a ≠ b) :
    (rowOf nodes a b).x = nodes.countP (fun n => n.cls == "X" && n.touch a && n.touch b) ∧
    (rowOf nodes a b).y = nodes.countP (fun n => n.cls == "Y" && n.touch a && n.touch b && n.endsIn a) ∧
    (rowOf nodes a b).yrev = nodes.countP (fun n => n.cls == "Y" && n.touch a && n.touch b && !n.endsIn a) := by
  have hrec : ((nodes.filter fun n => n.touch a && n.touch b).map fun n => (n.cls, intersectOf n.cls (n.touch a) (n.touch b) (n.endsIn a) a b))
      = (nodes.filter fun n => n.touch a && n.touch b).map fun n => (n.cls, .ok (if n.cls = "Y" ∧ n.endsIn a = false then (b, a) else (a, b))) :=
    List.map_congr_left fun n hn => by rw [intersectOf_selected n (hcls n (List.mem_filter.mp hn).1) a b (List.mem_filter.mp hn).2]
  simp only [rowOf, hrec, List.countP_map, List.countP_filter]
  refine ⟨?_, ?_, ?_⟩ <;> refine List.countP_congr fun n _ => ?_
  -- X: every record of a selected node is `.ok`
  · simp [Bool.and_assoc]
  -- Y, either order: the pair recorded for a Y-node tells whether a trace of `a` ends there, because `a ≠ b`
  all_goals
    cases hY : n.cls == "Y"
    · simp [hY]
    · cases he : n.endsIn a <;> simp [eq_of_beq hY, he, hab, Ne.symm hab]

example : pairs ["1", "2", "3"] = [("1", "2"), ("1", "3"), ("2", "3")] := by decide

/-- three sets of which the middle one is empty: both outer rows survive -/
example : (table [] (fun s => s != "2") ["1", "2", "3"]).map (·.sets) = [("1", "3")] := by decide

/-- **The regenerated `determine_intersect` IS the model's decision** (`Rel.intersectOf`) for every node class, every
pair of set names and every combination of the three incidence facts: an X-node between the two sets is recorded under
(first, second); a Y-node under (first, second) when a trace of the FIRST set ends there and under (second, first)
otherwise; anything else raises (and is counted as an error by the caller). -/
theorem C12_generated_determine_intersect (cls : String) (l1 l2 p1 : Bool) (first second : String) :
    Gen.determine_intersect p1 cls l1 l2 first second = Rel.intersectOf cls l1 l2 p1 first second := by
  -- the code tells the three ways of not meeting both sets apart and raises the same error in each
  simp only [Gen.determine_intersect, Rel.intersectOf, ite_self]

/-! ### the regenerated loop over the pairs of sets -/

abbrev Item := (String × (String × String)) × Nat
abbrev GRow := String × (String × String) × Nat × Nat × Nat × Nat

/-- reading the grouped counts of one pair: the X count, the Y count recorded under (first, second), the Y count under
(second, first) -/
def readCounts (first second : String) : List Item → Nat × Nat × Nat → Nat × Nat × Nat
  | [], acc => acc
  | it :: rest, (x, y, yr) =>
    if it.1.1 == "X" then readCounts first second rest (it.2, y, yr)
    else if it.1.2 = (first, second) then readCounts first second rest (x, it.2, yr)
    else readCounts first second rest (x, y, it.2)

/-- the grouped counts of a pair mention only X, and Y under one of the two orders of the pair (what `determine_intersect`
can produce, `C12_generated_determine_intersect`) -/
def ItemsOK (first second : String) (its : List Item) : Prop :=
  ∀ it ∈ its, it.1.1 = "X" ∨ (it.1.1 = "Y" ∧ (it.1.2 = (first, second) ∨ it.1.2 = (second, first)))

theorem rows_loop2_eq {nonEmpty : String → Bool} {items : String → String → List Item} {errcount : String → String → Nat} {names : List String}
    {label first second : String} {u : Unit} {its : List Item} (h : ItemsOK first second its) (x y yr : Nat) :
    Gen.relationship_rows_loop2 nonEmpty items errcount names label first second u its x y yr = .done (readCounts first second its (x, y, yr)) := by
  induction its generalizing x y yr with
  | nil => rfl
  | cons it rest ih =>
    have ih := ih fun i hi => h i (List.mem_cons_of_mem _ hi)
    rw [Gen.relationship_rows_loop2, readCounts]
    -- the tests in the order in which the loop makes them; `ItemsOK` excludes the two `raise`s
    by_cases hX : it.1.1 = "X"
    · simp only [hX, beq_self_eq_true, if_true, ih]
    · obtain ⟨hY, hsets⟩ := (h it List.mem_cons_self).resolve_left hX
      simp only [beq_false_of_ne hX, beq_iff_eq.mpr hY, Bool.false_eq_true, if_false, if_true]
      by_cases h12 : it.1.2 = (first, second)
      · simp only [h12, decide_true, if_true, ih]
      · simp only [h12, decide_false, Bool.false_eq_true, if_false, decide_eq_true (hsets.resolve_left h12), if_true, ih]

/-- the row the loop produces for a pair whose sets both contain traces -/
def genRow (items : String → String → List Item) (errcount : String → String → Nat) (label : String) (p : String × String) : GRow :=
  let c := readCounts p.1 p.2 (items p.1 p.2) (0, 0, 0)
  (label, (p.1, p.2), c.1, c.2.1, c.2.2, errcount p.1 p.2)

theorem rows_loop1_eq {nonEmpty : String → Bool} {items : String → String → List Item} {errcount : String → String → Nat} {names : List String}
    {label : String} {all ps : List (String × String)} (hok : ∀ p ∈ ps, ItemsOK p.1 p.2 (items p.1 p.2)) (acc : List GRow) :
    Gen.relationship_rows_loop1 nonEmpty items errcount names label all ps acc =
      .done (acc ++ ps.filterMap fun p => if nonEmpty p.1 && nonEmpty p.2 then some (genRow items errcount label p) else none) := by
  induction ps generalizing acc with
  | nil => simp [Gen.relationship_rows_loop1]
  | cons p rest ih =>
    obtain ⟨a, b⟩ := p
    have hrest : ∀ p ∈ rest, ItemsOK p.1 p.2 (items p.1 p.2) := fun p hp => hok p (List.mem_cons_of_mem _ hp)
    simp only [Gen.relationship_rows_loop1, List.filterMap_cons, ← Bool.not_and]
    cases nonEmpty a && nonEmpty b
    · exact ih hrest acc
    · simp only [Bool.not_true, Bool.false_eq_true, if_false, if_true, rows_loop2_eq (hok (a, b) List.mem_cons_self), ih hrest]
      simp [genRow]

/-- **One row per pair of sets that both contain traces, in `combinations` order, each computed from that pair alone.** The
regenerated loop of `determine_crosscut_abutting_relationships` (with the `continue` for pairs with an empty set) produces
exactly the rows of the non-empty pairs: an empty set anywhere in the list removes only its own pairs -- never a later
row (`C12_rows_independent` for the regenerated code). -/
theorem C12_generated_rows (nonEmpty : String → Bool) (items : String → String → List Item) (errcount : String → String → Nat)
    (names : List String) (label : String) (hn : 2 ≤ names.length)
    (hok : ∀ p ∈ pyCombinations2 names, ItemsOK p.1 p.2 (items p.1 p.2)) :
    Gen.relationship_rows nonEmpty items errcount names label =
      .ok ((pyCombinations2 names).filterMap fun p => if nonEmpty p.1 && nonEmpty p.2 then some (genRow items errcount label p) else none) := by
  unfold Gen.relationship_rows
  have : ¬ names.length < 2 := by omega
  simp only [this, decide_false, Bool.false_eq_true, if_false]
  rw [rows_loop1_eq hok []]
  simp

/-- `itertools.combinations(names, 2)` of the regenerated code is the model's `pairs` -/
theorem combinations_eq_pairs (l : List String) : pyCombinations2 l = pairs l := by
  induction l with
  | nil => rfl
  | cons a l ih => simp [pyCombinations2, pairs, ih]

/-- non-vacuity: three sets, the middle one empty: the row of the outer pair is there -/
example :
    Gen.relationship_rows (fun s => s != "B") (fun _ _ => [(("X", ("A", "C")), 2), (("Y", ("C", "A")), 1)]) (fun _ _ => 0) ["A", "B", "C"] "t"
      = .ok [("t", ("A", "C"), 2, 0, 1, 0)] := by
  simp [Gen.relationship_rows, pyCombinations2, Gen.relationship_rows_loop1, Gen.relationship_rows_loop2]

/-! ### the node loop of `determine_intersects` (regenerated) -/

section IntersectsLoop
variable {N : Type}

/-- the row recorded for one node -/
def rowOf (touches1 touches2 : N → Bool) (intersect_ : N → String → Bool → Bool → Option (String × String)) (names : String × String) (x : N × String) :
    N × String × (String × String) × Bool :=
  match intersect_ x.1 x.2 (touches1 x.1) (touches2 x.1) with
  | some sets => (x.1, x.2, sets, false)
  | none => (x.1, x.2, names, true)

theorem intersects_loop1_eq (touches1 touches2 : N → Bool) (intersect_ : N → String → Bool → Bool → Option (String × String)) (names : String × String)
    (ns : List N) (cs : List String) (l : List (N × String)) (acc : List (N × String × (String × String) × Bool)) :
    Gen.determine_intersects_rows_loop1 touches1 touches2 intersect_ names ns cs l acc =
      if l.any (fun x => !touches1 x.1 && !touches2 x.1) then .ret (.error "ValueError")
      else .done (acc ++ l.map (rowOf touches1 touches2 intersect_ names)) := by
  rw [List.map_eq_flatMap]
  apply Loop.scanCollect
  · intros; rfl
  · rintro ⟨n, c⟩ l acc
    simp only [Gen.determine_intersects_rows_loop1, rowOf]
    cases intersect_ n c (touches1 n) (touches2 n) <;> rfl

/-- **One row per node, in order.** The regenerated node loop of `determine_intersects` raises ValueError iff some node touches the
traces of NEITHER set; otherwise it records every X/Y node exactly once, in order: with the ordered pair `determine_intersect`
(`C12_generated_determine_intersect`) decides and `error = False`, or -- when that function raises -- with the unordered pair of set
names and `error = True`. No node is dropped, none counted twice. -/
theorem C12_generated_intersects_rows (touches1 touches2 : N → Bool) (intersect_ : N → String → Bool → Bool → Option (String × String))
    (names : String × String) (ns : List N) (cs : List String) :
    Gen.determine_intersects_rows touches1 touches2 intersect_ names ns cs =
      (if (List.zip ns cs).any (fun x => !touches1 x.1 && !touches2 x.1) then .error "ValueError"
       else .ok ((List.zip ns cs).map (rowOf touches1 touches2 intersect_ names))) := by
  unfold Gen.determine_intersects_rows
  simp only [intersects_loop1_eq, List.nil_append]
  cases (List.zip ns cs).any (fun x => !touches1 x.1 && !touches2 x.1) <;> rfl

end IntersectsLoop

/-- **The relationships of a Network are computed from its own set assignment.** In the regenerated `Network.__post_init__` (the defensive copy an explicit parameter)
the frame into which a Network writes its azimuth-set column -- the column `azimuth_set_relationships` groups by -- is a function of the COPY of the caller's frame only: an
earlier analysis of the same caller's frame with other sets cannot leak into it. (S12-relations analyses every frame once before with other sets.) -/
theorem C12_network_sets_from_a_copy {G' A' : Type} (area_is_empty : A' → Bool) (copy_ : List G' → List G') (has_z : List G' → Bool) (drop_z : List G' → List G')
    (crop_ : List G' → A' → Bool → List G') (given : Bool) (traces traces' : List G') (area : A') (truncate circular topo rz : Bool)
    (h : copy_ traces = copy_ traces') :
    Gen.network_init area_is_empty copy_ has_z drop_z crop_ given traces area truncate circular topo rz () () =
      Gen.network_init area_is_empty copy_ has_z drop_z crop_ given traces' area truncate circular topo rz () () := by
  unfold Gen.network_init
  rw [h]

end C12
