import FractopoModel.Basic.Geom
import FractopoModel.Spec.SandersonNixon
import FractopoModel.Props.C14
import FractopoModel.Props.C13
import FractopoModel.Lemmas.IntersectionFilter
import FractopoModel.Generated.LineDataCache
import FractopoModel.Generated.BoundaryWeight
import FractopoModel.Generated.ZCoordinates
import FractopoModel.Lemmas.Prelude
import FractopoModel.Lemmas.Lists
/-!
# C11 — results depend only on 2-D geometry: order, direction, similarity

* every exact geometric predicate the models are built from is invariant under translations
  and the 8 lattice symmetries, and scales by `k²` under scaling by `k` (so thresholds scaled by
  `k` give the same verdicts);
* node classes, node set and branch labels are invariant under permuting and reversing branches
  (C14_routes, reused);
* the published parameters scale as dimensional analysis demands.
-/
namespace C11

def translate (v p : Pt) : Pt := ⟨p.x + v.x, p.y + v.y⟩
def scale (k : Rat) (p : Pt) : Pt := ⟨k * p.x, k * p.y⟩
/-- the 8 lattice symmetries: optional swap of the axes, optional sign flips -/
def sym (swap fx fy : Bool) (p : Pt) : Pt :=
  let q : Pt := if swap then ⟨p.y, p.x⟩ else p
  ⟨if fx then -q.x else q.x, if fy then -q.y else q.y⟩

theorem C11_dist2_translate (v p q : Pt) : Pt.dist2 (translate v p) (translate v q) = Pt.dist2 p q := by
  simp only [Pt.dist2, Pt.sub, Pt.dot, translate]; grind

/-- an optional reflection multiplies a coordinate by `±1` -/
def sgn (f : Bool) : Rat := if f then -1 else 1

theorem ite_neg (f : Bool) (x : Rat) : (if f then -x else x) = sgn f * x := by cases f <;> simp [sgn, Rat.neg_mul]
theorem sgn_mul_self (f : Bool) : sgn f * sgn f = 1 := by cases f <;> simp [sgn, Rat.neg_mul, Rat.neg_neg]
theorem sgn_bne (a b : Bool) : sgn (a != b) = sgn a * sgn b := by cases a <;> cases b <;> simp [sgn, Rat.neg_mul, Rat.neg_neg]

theorem sgn_sub_sq (f : Bool) (a b : Rat) : (sgn f * a - sgn f * b) * (sgn f * a - sgn f * b) = (a - b) * (a - b) := by
  have := sgn_mul_self f; grind

theorem C11_dist2_sym (s fx fy : Bool) (p q : Pt) : Pt.dist2 (sym s fx fy p) (sym s fx fy q) = Pt.dist2 p q := by
  -- every coordinate difference gets a factor `±1`, which its square does not see; the swap exchanges the two squares
  cases s <;> simp only [Pt.dist2, Pt.sub, Pt.dot, sym, ite_neg, sgn_sub_sq, Bool.false_eq_true, if_false, if_true]
  exact Rat.add_comm _ _

theorem C11_dist2_scale (k : Rat) (p q : Pt) : Pt.dist2 (scale k p) (scale k q) = k * k * Pt.dist2 p q := by
  simp only [Pt.dist2, Pt.sub, Pt.dot, scale]; grind

/-- a threshold test `d < t` is unchanged when the map and the threshold are scaled together -/
theorem C11_close_scale (k t : Rat) (hk : 0 < k) (p q : Pt) :
    (Pt.dist2 (scale k p) (scale k q) < (k * t) * (k * t)) ↔ (Pt.dist2 p q < t * t) := by
  rw [C11_dist2_scale, show k * t * (k * t) = k * k * (t * t) by grind]
  exact Rat.mul_lt_mul_left (Rat.mul_pos hk hk)

theorem C11_orient_translate (v a b c : Pt) : orient (translate v a) (translate v b) (translate v c) = orient a b c := by
  simp only [orient, Pt.cross, Pt.sub, translate]; grind

theorem C11_orient_scale (k : Rat) (a b c : Pt) : orient (scale k a) (scale k b) (scale k c) = k * k * orient a b c := by
  simp only [orient, Pt.cross, Pt.sub, scale]; grind

/-- a symmetry keeps or flips the sign of every orientation at once (mirror images) -/
theorem C11_orient_sym (s fx fy : Bool) (a b c : Pt) :
    orient (sym s fx fy a) (sym s fx fy b) (sym s fx fy c) = (if (s != fx) != fy then -1 else 1) * orient a b c := by
  show _ = sgn ((s != fx) != fy) * _
  rw [sgn_bne, sgn_bne, show sgn s = if s then -1 else 1 from rfl]
  -- the swap of the axes is the third reflection: it exchanges the two products of the cross product
  cases s <;> simp only [orient, Pt.cross, Pt.sub, sym, ite_neg, Bool.false_eq_true, if_false, if_true] <;> grind

/-- hence collinearity (orientation zero) -- and with it on-segment and intersection tests -- are
invariant under the whole group -/
theorem C11_collinear_invariant (s fx fy : Bool) (v : Pt) (k : Rat) (hk : k ≠ 0) (a b c : Pt) :
    (orient (sym s fx fy (translate v (scale k a))) (sym s fx fy (translate v (scale k b))) (sym s fx fy (translate v (scale k c))) = 0) ↔ orient a b c = 0 := by
  have hs : (if ((s != fx) != fy) = true then (-1 : Rat) else 1) ≠ 0 := by split <;> decide
  rw [C11_orient_sym, C11_orient_translate, C11_orient_scale]
  simp only [Rat.mul_eq_zero, hs, hk, false_or]

/-- node classes, the node set and branch labels do not depend on the order of the branches nor
on the direction in which any of them was digitised -/
theorem C11_topology_perm {P : Type} [DecidableEq P] (bs bs' : List (Topo.Branch P)) (h : Topo.SameUpToOrderDir bs bs')
    (nearB : P → Bool) (close : P → P → Bool) :
    (Topo.collect bs').Perm (Topo.collect bs) ∧
    (∀ p, Topo.nodeClass nearB Gen.degree_to_class bs' p = Topo.nodeClass nearB Gen.degree_to_class bs p) :=
  ⟨(C14.C14_routes bs bs' h nearB close).1, (C14.C14_routes bs bs' h nearB close).2.1⟩

/-! ### the V-node bookkeeping of validation does not depend on row order or digitising direction -/

/-- **Order and direction freedom of the intersection filter.** The regenerated `determine_valid_intersection_points_no_vnode` (four nested
loops that switch flags off in place, scanning the candidate rows in frame order and the two ends of every candidate in digitising order) returns
the same points when the candidate rows are permuted and when any trace (candidate or the trace itself) is digitised in the other direction --
i.e. when `ends_of` lists the ends of every line in another order.  So which contacts count as V-nodes moves with the rows. -/
theorem C11_intersection_filter_order_free {L P : Type} (inter : List P) (ends_of ends_of' : L → List P) (close : P → P → Bool)
    (cands cands' : List L) (geom : L) (hperm : cands.Perm cands') (hends : ∀ l, (ends_of' l).Perm (ends_of l)) :
    Gen.intersection_points_no_vnode inter ends_of' close cands' geom = Gen.intersection_points_no_vnode inter ends_of close cands geom := by
  -- the active ends are the same points, and the filter only asks whether one of them is close
  have hmem (ge : P) : ge ∈ IntersectionFilter.activeEnds ends_of' close cands' geom ↔ ge ∈ IntersectionFilter.activeEnds ends_of close cands geom := by
    simp only [IntersectionFilter.activeEnds, List.mem_flatMap, List.mem_filter, hperm.mem_iff, fun l p => (hends l).mem_iff (a := p)]
  rw [IntersectionFilter.generated_eq_spec, IntersectionFilter.generated_eq_spec]
  congr 1
  funext p
  congr 1
  rw [Bool.eq_iff_iff]
  simp only [List.any_eq_true, hmem]

/-- the hypotheses are met by a reversed row order with every trace reversed, and the filter then really drops a V-node contact -/
example : Gen.intersection_points_no_vnode [5, 9] (fun l : Nat × Nat => [l.2, l.1]) (fun a b => a == b) [(7, 8), (1, 5)] (5, 6)
    = Gen.intersection_points_no_vnode [5, 9] (fun l : Nat × Nat => [l.1, l.2]) (fun a b => a == b) [(1, 5), (7, 8)] (5, 6) ∧
    Gen.intersection_points_no_vnode [5, 9] (fun l : Nat × Nat => [l.1, l.2]) (fun a b => a == b) [(1, 5), (7, 8)] (5, 6) = [9] := by decide +kernel

/-! ### decoration with columns named like the package's cache columns (known finding F12) -/

/-- **F12, stated on the regenerated code.** The regenerated column cache of `LineData` returns whatever the wrapped frame already holds under the
names `length` / `azimuth` (…): a user's attribute column of that name REPLACES the value computed from the geometry, and the set assignment is made from
the user's `azimuth` values. Extra columns are therefore not always inert -- the decoration clause of C11 fails exactly for these names (the names are
`Gen.line_cache_columns`). -/
theorem C11_F12_cache_named_columns_win (lengths stale azimuths user_az : List Rat) (counts : List Int) (detset : Rat → String) (cols : LineCols)
    (hl : cols.length = some stale) (ha : cols.azimuth = some user_az) (hs : cols.azimuth_set = none) :
    Gen.ld_length_array Gen.intersection_count_to_boundary_weight lengths counts cols = (.ok stale, cols) ∧
    (Gen.ld_azimuth_set_array detset azimuths cols).1 = user_az.map detset ∧
    Gen.line_cache_columns = ["length", "azimuth", "azimuth_set", "boundary_weight", "length non-weighted"] :=
  ⟨by unfold Gen.ld_length_array; rw [hl], by unfold Gen.ld_azimuth_set_array Gen.ld_azimuth_array; rw [hs, ha], rfl⟩

example : (Gen.ld_azimuth_set_array (fun a => if a < 90 then "E" else "W") [10, 100] { azimuth := some [100, 100] }).1 = ["W", "W"] := by decide +kernel

/-! ### the one validator that keeps state on its class -/

/-- **The under/overlap label of a row does not depend on which rows were validated before it.** The regenerated `UnderlappingSnapValidator.validation_method`
(class attribute threaded as a value) reports, for a failing end, a label chosen from the call's own arguments only: whatever label earlier rows (in any order) left on
the class, the verdict and the label are the same -- so the verdict moves with its row under every row permutation. -/
theorem C11_underlap_label_independent_of_earlier_rows {L P : Type} (endpoints_of : L → List P) (dist : L → P → Rat) (isUl : L → L → P → Option Bool)
    (overlaps : L → L → Bool) (geom : L) (cands : List L) (t m : Rat) (left_by_earlier_rows left_by_other_order : String) (out : String)
    (h : Gen.underlap_validation endpoints_of dist isUl overlaps geom cands t m left_by_earlier_rows = .ok (false, out)) :
    Gen.underlap_validation endpoints_of dist isUl overlaps geom cands t m left_by_other_order = .ok (false, out) :=
  ((C13.C13_underlap_attribute endpoints_of dist isUl overlaps geom cands t m left_by_earlier_rows left_by_other_order false out h).2.1 rfl).2

/-! ### dimensional analysis of the published parameters (through C08: generated = published) -/

open Spec in
/-- the network scaled by `k > 0`: lengths × k, area × k², counts unchanged -/
def scaleNet (k : Rat) (n : NetIn) : NetIn :=
  { n with traceLens := n.traceLens.map (k * ·), branchLens := n.branchLens.map (k * ·), area := k * k * n.area }

theorem totalLen_scaleNet (k : Rat) (n : Spec.NetIn) : (scaleNet k n).totalLen = k * n.totalLen := List.sum_map_mul k _

theorem safeDiv_mul_left (k a b : Rat) : Spec.NetIn.safeDiv (k * a) b = k * Spec.NetIn.safeDiv a b := by
  unfold Spec.NetIn.safeDiv
  split
  · exact Rat.mul_div_assoc ..
  · exact (Rat.mul_zero k).symm

theorem scaled_div_scaled (k s a : Rat) (hk : k ≠ 0) : k * s / a / (k * k) = s / a / k := by grind

open Spec in
/-- **Scaling law.** Under scaling by `k > 0` (area > 0): intensities (P21, B21) scale by 1/k, areal
frequencies (P20, B20) and connection frequency by 1/k², mean lengths by k, and the dimensionless
parameters and counts (P22, connections per trace / branch, numbers of traces and branches) are
unchanged. -/
theorem C11_param_scaling (k : Rat) (hk : 0 < k) (n : NetIn) :
    (scaleNet k n).nTraces = n.nTraces ∧ (scaleNet k n).nBranches = n.nBranches ∧
    (scaleNet k n).connPerTrace = n.connPerTrace ∧ (scaleNet k n).connPerBranch = n.connPerBranch ∧
    (scaleNet k n).p21 = n.p21 / k ∧
    (scaleNet k n).nTraces / (scaleNet k n).area = n.nTraces / n.area / (k * k) ∧
    (scaleNet k n).nBranches / (scaleNet k n).area = n.nBranches / n.area / (k * k) ∧
    (scaleNet k n).meanTrace = k * n.meanTrace ∧ (scaleNet k n).meanBranch = k * n.meanBranch ∧
    (scaleNet k n).p21 * (scaleNet k n).meanTrace = n.p21 * n.meanTrace ∧
    (scaleNet k n).p21 * (scaleNet k n).meanBranch = n.p21 * n.meanBranch := by
  have hk0 : k ≠ 0 := Rat.ne_of_gt hk
  have harea (x : Rat) : x / (scaleNet k n).area = x / n.area / (k * k) := by
    show x * (k * k * n.area)⁻¹ = x * n.area⁻¹ * (k * k)⁻¹
    rw [Rat.inv_mul_rev, Rat.mul_assoc]
  have hp21 : (scaleNet k n).p21 = n.p21 / k := by
    rw [NetIn.p21, harea, totalLen_scaleNet]; exact scaled_div_scaled k _ _ hk0
  have hmt : (scaleNet k n).meanTrace = k * n.meanTrace := by
    simp only [NetIn.meanTrace, totalLen_scaleNet]
    simp only [scaleNet, List.length_map]
    split
    · exact (Rat.mul_zero k).symm
    · exact Rat.mul_div_assoc ..
  have hmb : (scaleNet k n).meanBranch = k * n.meanBranch := by
    rw [NetIn.meanBranch, totalLen_scaleNet]; exact safeDiv_mul_left ..
  refine ⟨rfl, rfl, rfl, rfl, hp21, harea _, harea _, hmt, hmb, ?_, ?_⟩
  · rw [hp21, hmt, ← Rat.mul_assoc, Rat.div_mul_cancel hk0]
  · rw [hp21, hmb, ← Rat.mul_assoc, Rat.div_mul_cancel hk0]

example : Pt.dist2 (sym true true false ⟨1, 2⟩) (sym true true false ⟨4, 6⟩) = 25 := by decide +kernel

/-! ### decoration with Z values -/

/-- Z values are removed row by row whatever the index labels are (regenerated `remove_z_coordinates_from_geodata`): a map decorated with Z values and any
index is, after the clean-up that `Network`, `Validation` and `branches_and_nodes` run first, the same map in 2-D with the same labels and data -/
theorem C11_generated_z_removal {L D G : Type} [BEq L] [LawfulBEq L] (dropz : G → G) (nan : G) (frame : List (L × D × G)) :
    Gen.remove_z_coordinates_from_geodata dropz nan frame = .ok (frame.map fun r => (r.1, r.2.1, dropz r.2.2)) := by
  simp [Gen.remove_z_coordinates_from_geodata, pyAssignAligned_map]

example : Gen.remove_z_coordinates_from_geodata (fun g : Nat => g % 100) 0 [(7, "a", 301), (7, "b", 402), (3, "c", 5)] = .ok [(7, "a", 1), (7, "b", 2), (3, "c", 5)] := by decide

end C11
