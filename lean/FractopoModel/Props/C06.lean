import FractopoModel.Model.Snap
import FractopoModel.Lemmas.SnapLoop
import FractopoModel.Generated.SnapInsert
import FractopoModel.Lemmas.SnapDriver
import FractopoModel.Lemmas.InsertPoint
import FractopoModel.Lemmas.SnapStage
import FractopoModel.Generated.Windows
import FractopoModel.Generated.DegreeToClass
/-!
# C06 — snap-threshold semantics
-/
namespace C06
open Snap
variable {P : Type}

/-- **Within the threshold means connected, beyond it means not** (regenerated guard of the
vertex-insertion pass): an end is inserted into another trace iff it is strictly closer than the
threshold and not already exactly on it. -/
theorem C06_snap_guard (d t : Rat) (on : Bool) :
    Gen.snap_guard d t on = true ↔ (d < t ∧ on = false) := by
  rw [Gen.snap_guard, Bool.and_eq_true, decide_eq_true_iff, Bool.not_eq_true']

/-- an end at distance ≥ t from every other trace is never inserted anywhere -/
theorem C06_far_untouched (d t : Rat) (on : Bool) (h : t ≤ d) : Gen.snap_guard d t on = false :=
  Bool.eq_false_iff.mpr fun hg => Rat.not_lt.mpr h ((C06_snap_guard d t on).mp hg).1

/-- ends within the threshold of the area boundary are boundary ends: they are excluded from
insertion (`boundary_close`) and classed E by the same strict test (`node_boundary_close`) -/
theorem C06_boundary (d t : Rat) :
    (Gen.boundary_close d t = true ↔ d < t) ∧ (Gen.node_boundary_close d t = Gen.boundary_close d t) ∧
    (Gen.node_coincident d t = true ↔ d < t) :=
  ⟨decide_eq_true_iff, rfl, decide_eq_true_iff⟩

/-- **Insertion lands in the closest segment.** Whenever the decision is to insert, the new
vertex sits between the two ends of the closest segment `j`, all original vertices are kept in
order, and exactly one vertex is added. -/
theorem C06_insert_between (vs : List P) (p : P) (j : Nat) (hj : j + 1 < vs.length) :
    (apply vs p (.insertAfter j))[j]? = vs[j]? ∧ (apply vs p (.insertAfter j))[j + 1]? = some p ∧
    (apply vs p (.insertAfter j))[j + 2]? = vs[j + 1]? ∧ (apply vs p (.insertAfter j)).length = vs.length + 1 := by
  simp only [apply, List.append_assoc, List.singleton_append]
  have hl : (vs.take (j + 1)).length = j + 1 := List.length_take_of_le (Nat.le_of_lt hj)
  refine ⟨?_, ?_, ?_, ?_⟩
  · rw [List.getElem?_append_left (by omega), List.getElem?_take_of_lt (by omega)]
  · rw [List.getElem?_append_right (by omega), hl, Nat.sub_self, List.getElem?_cons_zero]
  · rw [List.getElem?_append_right (by omega), hl, show j + 2 - (j + 1) = 1 by omega, List.getElem?_cons_succ, List.getElem?_drop]
  · rw [List.length_append, List.length_cons, ← Nat.add_assoc, ← List.length_append, List.take_append_drop]

/-- the decision never replaces the first or the last vertex (trace ends stay where they are),
replaces only an END of the closest segment, and only when it is within the threshold -/
theorem C06_decision (n j : Nat) (s c : Bool) :
    choose n j s c = .insertAfter j ∨
    (∃ k, choose n j s c = .replace k ∧ c = true ∧ (k = j ∨ k = j + 1) ∧ k ≠ 0 ∧ k ≠ n - 1) := by
  unfold choose
  simp only []
  generalize hk : (if s = true then j + 1 else j) = k
  have hkj : k = j ∨ k = j + 1 := by subst hk; cases s <;> simp
  by_cases hend : k = 0 ∨ k = n - 1
  · exact .inl (if_pos (by simpa using hend))
  · rw [if_neg (by simpa using hend)]
    cases c
    · exact .inl rfl
    · exact .inr ⟨k, rfl, rfl, hkj, fun h => hend (.inl h), fun h => hend (.inr h)⟩

/-- a replacement changes one vertex only and keeps the number of vertices -/
theorem C06_replace (vs : List P) (p : P) (k : Nat) (hk : k < vs.length) :
    (apply vs p (.replace k)).length = vs.length ∧ (apply vs p (.replace k))[k]? = some p ∧
    ∀ i, i ≠ k → (apply vs p (.replace k))[i]? = vs[i]? := by
  simp only [apply]
  refine ⟨by simp, by simp [hk], ?_⟩
  intro i hi
  rw [List.getElem?_set_ne (Ne.symm hi)]

/-- once connected, the abutment is a Y-node: three branch ends meet there (from C05) -/
theorem C06_connected_is_Y : Gen.degree_to_class 2 = "Y" := by decide

/-! ### the snapping pass as a whole (`Model/SnapLoop.lean`, tied to `snap_traces` and to the loop inside
`branches_and_nodes` by stream S06-snappass) -/

/-- **Nothing within the threshold ⇒ nothing moves.** On a map where no decision predicate of either
stage fires (`quietMap`, a decidable condition the driver evaluates on every generated map) one pass
returns the traces unchanged, in order, and reports no change — for any number of traces, any areas,
either candidate order. -/
theorem C06_quiet_pass_identity (ord : SnapL.Ord) (t margin : Rat) (areas : List Polygon) (traces : List Polyline)
    (h : SnapL.quietMap ord t margin traces = true) : SnapL.snapPass ord t margin areas traces = .ok (traces, false) :=
  SnapL.snapPass_quiet ord t margin areas traces h

/-- … and the repeat-until-stable stage ends after the first pass, never raising -/
theorem C06_quiet_loop_identity (ord : SnapL.Ord) (t margin : Rat) (areas : List Polygon) (allowed : Nat) (traces : List Polyline)
    (h : SnapL.quietMap ord t margin traces = true) : SnapL.snapLoop ord t margin areas allowed traces = .ok (traces, 0) :=
  SnapL.snapLoop_quiet ord t margin areas allowed traces h

/-- the snapping stage returns only after at most `allowed` repeat passes (otherwise it raises), and
every pass keeps the number and order of the traces -/
theorem C06_loop_bound (ord : SnapL.Ord) (t margin : Rat) (areas : List Polygon) (allowed : Nat) (traces out : List Polyline) (n : Nat)
    (h : SnapL.snapLoop ord t margin areas allowed traces = .ok (out, n)) : n ≤ allowed :=
  Pipeline.snapLoop_bound h

theorem C06_pass_keeps_rows (ord : SnapL.Ord) (t margin : Rat) (areas : List Polygon) (traces out : List Polyline) (ch : Bool)
    (h : SnapL.snapPass ord t margin areas traces = .ok (out, ch)) : out.length = traces.length := by
  unfold SnapL.snapPass at h
  split at h
  · rename_i he
    cases h
    rw [List.isEmpty_iff.mp he]
  · split at h
    · cases h
    · rename_i s1 hs1
      split at h
      · cases h
      · rename_i s2 hs2
        cases h
        rw [List.length_map, List.length_of_mapM_ok hs2, List.length_zipIdx, List.length_map, List.length_of_mapM_ok hs1, List.length_zipIdx]

/-- **Moves are bounded by the threshold**: an end is moved only onto a vertex strictly closer than the
threshold, and an end is inserted into another trace only when strictly within the threshold of it and
not already on it -/
theorem C06_moves_within_threshold (t : Rat) (trace c another : Polyline) (ep v : Pt) (eps : List Pt) :
    (SnapL.simpleTarget t trace c ep = some v → Pt.dist2 v ep < t * t) ∧
    ((SnapL.snapToAnother t eps another).2 = true → ∃ e ∈ eps, SnapL.near t e another = true ∧ SnapL.onLine e another = false) :=
  ⟨SnapL.simpleTarget_close, SnapL.snapToAnother_changed⟩

/-! ### regenerated callees of the second snapping stage -/

/-- **Ends near the boundary are boundary ends**: the regenerated `is_endpoint_close_to_boundary` answers true exactly
when some area boundary is strictly within the threshold -- the filter the model applies (`SnapL.closeToBoundary`) -/
theorem C06_generated_boundary_filter {P A : Type} (bdist : P → A → Rat) (ep : P) (areas : List A) (t : Rat) :
    Gen.is_endpoint_close_to_boundary bdist ep areas t = areas.any (fun a => decide (bdist ep a < t)) :=
  SnapStageL.boundary_filter_eq bdist ep areas t

/-- **The regenerated `snap_trace_to_another` is the model's second stage for one trace**: the ends to insert are
selected against the trace as it is before any insertion (strictly within the threshold and not already on it), then
inserted one after the other; "changed" is reported iff something was selected. Instantiated with the exact
predicates and `Snap.insertGeo` this is `SnapL.snapToAnother`. -/
theorem C06_generated_snap_to_another (dist : Pt → Polyline → Rat) (t : Rat) (eps : List Pt) (another : Polyline)
    (hdist : ∀ ep ∈ eps, decide (dist ep another < t) = SnapL.near t ep another) :
    Gen.snap_trace_to_another dist (fun ep l => SnapL.onLine ep l) (fun l ep thr => Snap.insertGeo l ep thr) eps another t
      = SnapL.snapToAnother t eps another :=
  SnapStageL.snap_to_another_eq dist t eps another hdist

/-! ### the regenerated repeat-until-stable driver (`while any_changes_applied` inside `branches_and_nodes`) -/

/-- **The regenerated snapping driver is the model's loop.** With enough fuel (`allowed + 2` iterations can never all be taken:
the counter check raises first) the regenerated `while any_changes_applied:` loop of `branches_and_nodes` -- pass again with
the same traces / threshold / areas, count, raise RecursionError when more than `allowed_loops` repeat passes were needed -- returns
exactly what `SnapL.snapLoop` returns, for every pass function that does not itself raise. It never runs out of fuel. -/
theorem C06_generated_driver (ord : SnapL.Ord) (t margin : Rat) (areas : List Polygon) (allowed : Nat) (pass_ : List Polyline → List Polyline × Bool)
    (hpass : ∀ tr, SnapL.snapPass ord t margin areas tr = .ok (pass_ tr)) (traces : List Polyline) :
    Gen.snap_driver pass_ traces allowed (allowed + 2) = SnapL.snapLoop ord t margin areas allowed traces :=
  SnapDriver.generated_driver ord t margin areas allowed pass_ hpass traces

/-- non-vacuity: a T-abutment that touches exactly is quiet; the same end 1/200 short of the target is
inserted into the target by one pass (threshold 1/100), and a second pass changes nothing -/
example :
    SnapL.quietMap .asc (1/100) (1/5) [[⟨0, 0⟩, ⟨10, 0⟩], [⟨4, 0⟩, ⟨4, 5⟩]] = true ∧
    SnapL.snapPass .asc (1/100) (1/5) [] [[⟨0, 0⟩, ⟨10, 0⟩], [⟨4, 1/200⟩, ⟨4, 5⟩]]
      = .ok ([[⟨0, 0⟩, ⟨4, 1/200⟩, ⟨10, 0⟩], [⟨4, 1/200⟩, ⟨4, 5⟩]], true) ∧
    SnapL.snapLoop .asc (1/100) (1/5) [] 10 [[⟨0, 0⟩, ⟨10, 0⟩], [⟨4, 1/200⟩, ⟨4, 5⟩]]
      = .ok ([[⟨0, 0⟩, ⟨4, 1/200⟩, ⟨10, 0⟩], [⟨4, 1/200⟩, ⟨4, 5⟩]], 1) := by decide +kernel

example : apply [1, 2, 3, 4] 9 (choose 4 1 false false) = [1, 2, 9, 3, 4] ∧ apply [1, 2, 3, 4] 9 (choose 4 1 true true) = [1, 2, 9, 4] ∧
    apply [1, 2, 3, 4] 9 (choose 4 2 true true) = [1, 2, 3, 9, 4] := by decide

/-! ### regenerated vertex insertion -/

theorem segs_eq_range (l : Polyline) (d : Pt) :
    segs l = (List.range (l.length - 1)).map fun i => (l.getD i d, l.getD (i + 1) d) := by
  unfold segs
  apply List.ext_getElem
  · simp
  · intro i h1 h2
    simp only [List.getElem_zip, List.getElem_tail, List.getElem_map, List.getElem_range]
    rw [List.getElem_eq_getD d, List.getElem_eq_getD d]

/-- **The regenerated `insert_point_to_linestring` IS the insertion model.** With exact squared distances for the distance
parameters (the threshold squared accordingly; ordering by squared distance = ordering by distance), the regenerated function --
coincidence guard, distance table, stable sort, first-minimum segment, restriction to the ends of that segment, regenerated
`determine_insert_approach`, `pop` / `insert` -- equals `Snap.insertGeo` for every polyline with at least two vertices, every
point, every threshold. `C06_insert_between`, `C06_decision`, `C06_replace` and the snapping-loop theorems therefore speak about
regenerated code. The angle comparison of the middle branch is irrelevant (its result is overwritten by the caller). -/
theorem C06_generated_insert_point (l : Polyline) (p : Pt) (t : Rat) (angle : Pt → Pt → Pt → Rat) (h2 : 2 ≤ l.length) :
    Gen.insert_point_to_linestring (fun c q => Pt.dist2 q c) (fun a b => a == b) angle (fun a b q => ptSegDist2 q a b) l p (t * t)
      = Snap.insertGeo l p t := by
  by_cases hc : l.contains p = true
  · have hg : (List.any (List.map (fun xy => p == xy) l) id) = true := by simpa using hc
    unfold Gen.insert_point_to_linestring Snap.insertGeo
    simp only [hg, hc, if_true]
  · have hs : ∀ c ∈ l, (p == c) = false ∧ (c == p) = false := fun c hcm =>
      have hne : p ≠ c := fun h => hc (List.contains_iff_mem.mpr (h ▸ hcm))
      ⟨beq_false_of_ne hne, beq_false_of_ne hne.symm⟩
    rw [InsertPt.generated_insert (fun c q => Pt.dist2 q c) (fun a b => a == b) angle (fun a b q => ptSegDist2 q a b) l p (t * t) h2 hs]
    unfold Snap.insertGeo
    simp only [hc, Bool.false_eq_true, if_false, segs_eq_range l p, List.map_map, Function.comp_def]
    -- the closest segment `j` has both its ends among the vertices: the model reads them with `default`, the regenerated code with `p`
    have hj := InsertPt.argminIdx_segment h2 fun i => ptSegDist2 p (l.getD i p) (l.getD (i + 1) p)
    generalize Snap.argminIdx _ = j at hj ⊢
    simp only [List.getD_irrel (Nat.lt_of_succ_lt hj) default p, List.getD_irrel hj default p]

/-! ### the regenerated snapping pass -/

/-- **The regenerated `simple_snap` IS the model's first stage for one trace** (exact squared distances for the distance
parameters): candidate pre-filter, replacement dictionary built candidate by candidate and end by end, already-snapped skip, nearest
interior vertex within the threshold (first minimum = head of the stable sort), overlapping-snap skip, ValueError on a second
replacement, rewrite of the coordinates. -/
theorem C06_generated_simple_snap (t : Rat) (trace : Polyline) (cands : List Polyline) :
    SnapStageL.simpleSnapG trace cands t = SnapL.simpleSnap t trace cands :=
  SimpleSnapL.generated_simple_snap t trace cands

/-- **The regenerated `snap_traces` IS the model's snapping pass.** `resolve_trace_candidates`, `snap_trace_simple`,
`snap_others_to_trace` and `snap_traces` are regenerated whole and call the regenerated `simple_snap`,
`is_endpoint_close_to_boundary`, `snap_trace_to_another` (whose vertex insertion is `C06_generated_insert_point`). For every list of
traces, threshold, areas and either candidate order of the spatial index, with distance parameters whose comparison with the
threshold is the exact squared comparison, the regenerated pass equals `SnapL.snapPass` -- results, change flag and both
ValueErrors. Together with `C06_generated_driver` the whole snapping stage of `branches_and_nodes` is regenerated code, and
`C06_quiet_pass_identity`, `C06_loop_bound`, `C06_pass_keeps_rows`, `C04_pass_stays_within_threshold`, `C01_snap_stage_identity`
are theorems about it. -/
theorem C06_generated_snap_traces (ord : SnapL.Ord) (t : Rat) (areas : List Polygon) (traces : List Polyline)
    (dist : Pt → Polyline → Rat) (bdist : Pt → Polygon → Rat)
    (hdist : ∀ ep l, decide (dist ep l < t) = SnapL.near t ep l)
    (hbd : ∀ ep (pg : Polygon), decide (bdist ep pg < t) = decide (pg.boundaryDist2 ep < t * t)) :
    Gen.snap_traces SnapStageL.boundsE (SnapStageL.indexE ord) SnapStageL.simpleSnapG SnapL.ends bdist dist (fun ep l => SnapL.onLine ep l)
        (fun l ep thr => Snap.insertGeo l ep thr) traces t (some areas)
      = SnapL.snapPass ord t (t * 20) areas traces :=
  SnapStageL.generated_snap_traces ord t areas traces dist bdist hdist hbd

/-- the distance laws are satisfiable for every positive threshold (threshold-clamped exact distances), and on the T-abutment
1/200 short of its target the regenerated pass inserts the end into the target -/
example : (∀ ep l, decide (SnapStageL.distC (1 / 100) ep l < 1 / 100) = SnapL.near (1 / 100) ep l) ∧
    (match Gen.snap_traces SnapStageL.boundsE (SnapStageL.indexE .asc) SnapStageL.simpleSnapG SnapL.ends (SnapStageL.bdistC (1 / 100)) (SnapStageL.distC (1 / 100))
        (fun ep l => SnapL.onLine ep l) (fun l ep thr => Snap.insertGeo l ep thr) [[⟨0, 0⟩, ⟨10, 0⟩], [⟨5, 1 / 200⟩, ⟨5, 4⟩]] (1 / 100) (some []) with
      | .ok (tr, ch) => tr == [[⟨0, 0⟩, ⟨5, 1 / 200⟩, ⟨10, 0⟩], [⟨5, 1 / 200⟩, ⟨5, 4⟩]] && ch
      | .error _ => false) = true :=
  ⟨fun ep l => SnapStageL.distC_law _ (by decide +kernel) ep l, by decide +kernel⟩

/-- non-vacuity: the doctest of `insert_point_to_linestring` through the regenerated code -/
example : Gen.insert_point_to_linestring (fun c q => Pt.dist2 q c) (fun a b => a == b) (fun _ _ _ => 0) (fun a b q => ptSegDist2 q a b)
    [⟨0, 0⟩, ⟨1, 0⟩, ⟨2, 0⟩, ⟨3, 0⟩] ⟨5 / 4, 1 / 10⟩ ((1 / 100) * (1 / 100)) = [⟨0, 0⟩, ⟨1, 0⟩, ⟨5 / 4, 1 / 10⟩, ⟨2, 0⟩, ⟨3, 0⟩] := by decide +kernel

end C06
